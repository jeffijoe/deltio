import Deltio.Model.Base
import Deltio.Model.Names
import Deltio.Model.Base64
import Deltio.Model.Paging
import Deltio.Model.Deadline
import Deltio.Model.Tracker
import Deltio.Model.SubActor
import Deltio.Model.System
import Deltio.Proto.Attach
import Deltio.Proto.Wake
import Deltio.Proto.Deadlock
import Deltio.Proto.Cancel
import Deltio.Proto.Flow
import Deltio.Proto.Fanout
import Deltio.Lemmas.List
import Deltio.Lemmas.Parse
import Deltio.Lemmas.Deadline
import Deltio.Lemmas.Names
import Deltio.Lemmas.Base64
import Deltio.Lemmas.Tracker
import Deltio.Lemmas.SubActor
import Deltio.Lemmas.SubTurn
import Deltio.Lemmas.SubRun
import Deltio.Lemmas.SubClock
import Deltio.Lemmas.Order
import Deltio.Lemmas.SysFrame
import Deltio.Lemmas.SysStep
import Deltio.Lemmas.SysSub
import Deltio.Lemmas.SubsOk
import Deltio.Lemmas.SysInv
import Deltio.Lemmas.Timer
import Deltio.Lemmas.Drain
import Deltio.Lemmas.MapSpec
import Deltio.Lemmas.MapRefine
import Deltio.Lemmas.Wake
import Deltio.Lemmas.Attach
import Deltio.Lemmas.Fanout
import Deltio.Props.C01
import Deltio.Props.C02
import Deltio.Props.C03
import Deltio.Props.C04
import Deltio.Props.C05
import Deltio.Props.C06
import Deltio.Props.C07
import Deltio.Props.C08
import Deltio.Props.C09
import Deltio.Props.C10
import Deltio.Props.C11
import Deltio.Props.C12
import Deltio.Props.C13
import Deltio.Props.C14
import Deltio.Props.C15
import Deltio.Props.C16
import Deltio.Props.C17
import Deltio.Props.C18
import Deltio.Props.C19
