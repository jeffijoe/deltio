import Deltio.Lemmas.SubRun
import Deltio.Lemmas.SysSub
import Deltio.Lemmas.SubsOk
/-
  C02 — Acknowledgement is final and affects only that delivery.
-/
namespace Deltio

/-- The consistency invariant of the outstanding-message tracker (hash map vs. expiration set)
    holds after every sequence of turns from a fresh subscription: ack ids are unique, the
    expiration set is strictly sorted and holds exactly the keys of the outstanding deliveries. -/
theorem C02_tracker_consistent (ackDl : Nat) (ts : List SubTurn) :
    ((SubState.init ackDl).exec ts).out.Inv :=
  (SubInv_exec (SubInv_init ackDl) ts).out

/-- `take_expired` never pops an expiration key without a delivery (the `unwrap_unchecked`
    is never reached with `None`): no expiry turn reports undefined behaviour. -/
theorem C02_takeExpired_total (ackDl : Nat) (ts : List SubTurn) (now : Nat) :
    (((SubState.init ackDl).exec ts).turn (.expire now)).2.ub = false := by
  obtain ⟨_, _, he, _⟩ := expire_turn (SubInv_exec (SubInv_init ackDl) ts) now
  rw [he]

/-- An acknowledged outstanding delivery is gone for good: in every continuation (arbitrary
    turns, posts of other messages included), the message is neither queued nor leased again and
    no later turn delivers it. `hfresh`: message ids are not reused by later posts. -/
theorem C02_final {s : SubState} (h : SubInv s) (hd : s.deleted = false) (ids : List Nat) (d : Deliv)
    (hout : d ∈ s.out.msgs) (hack : d.ack ∈ ids) (ts : List SubTurn) (hn : NoDelete ts)
    (hfresh : ((held s ++ postedIn ts).map (·.id)).Nodup) :
    ∀ p u rest, ts = p ++ u :: rest →
      d.msg.id ∉ (held (((s.turn (.ack ids)).1).exec p)).map (·.id) ∧
      ∀ x ∈ ((((s.turn (.ack ids)).1).exec p).turn u).2.delivered, x.msg.id ≠ d.msg.id := by
  intro p u rest hts
  obtain ⟨hnp, hsub⟩ := prefix_hyps hts hn hfresh
  -- the acknowledged message is in the acked part of the conservation law for `ack ids :: p`
  have hin : d.msg ∈ ackedBy s (.ack ids) := by
    simp only [ackedBy, hd, Bool.false_eq_true, ↓reduceIte]
    refine List.mem_map_of_mem ((List.mem_append.mp ((remove_spec ids h.out).2.mem_iff.mpr hout)).resolve_left fun h1 => ?_)
    exact ((mem_remove_msgs ids s.out d).mp h1).2 hack
  have hnd := exec_nodup h hd (.ack ids :: p)
    (fun t ht => (List.mem_cons.mp ht).elim (fun e => e ▸ ⟨by simp, by simp⟩) (hnp t)) (by simpa [postedIn, postedBy] using hsub)
  rw [List.map_append, List.nodup_append] at hnd
  have hnot : d.msg.id ∉ (held ((s.turn (.ack ids)).1.exec p)).map (·.id) := fun hmem =>
    hnd.2.2 _ hmem _ (List.mem_map_of_mem (List.mem_append_left _ hin)) rfl
  refine ⟨hnot, fun x hx hxe => hnot (hxe ▸ ?_)⟩
  exact List.mem_map_of_mem (List.mem_append_left _ (delivered_from_backlog _ u x hx).1)

/-- The acknowledgement touches nothing else: the backlog, the ack-id counter and every other
    outstanding delivery (deadline included) are unchanged, and nothing new becomes outstanding. -/
theorem C02_frame (s : SubState) (ids : List Nat) :
    (s.turn (.ack ids)).1.backlog = s.backlog ∧ (s.turn (.ack ids)).1.nextAck = s.nextAck ∧
    (∀ d ∈ s.out.msgs, d.ack ∉ ids → d ∈ (s.turn (.ack ids)).1.out.msgs) ∧
    (∀ d ∈ (s.turn (.ack ids)).1.out.msgs, d ∈ s.out.msgs) ∧
    (s.turn (.ack ids)).2.delivered = [] ∧ (s.turn (.ack ids)).2.notified = false := by
  simp only [SubState.turn]
  split
  · exact ⟨rfl, rfl, fun d hd _ => hd, fun d hd => hd, rfl, rfl⟩
  · refine ⟨rfl, rfl, ?_, ?_, rfl, rfl⟩
    · intro d hd hn; exact (mem_remove_msgs ids s.out d).mpr ⟨hd, hn⟩
    · intro d hd; exact ((mem_remove_msgs ids s.out d).mp hd).1

/-- Acknowledging ids none of which is outstanding — unknown, stale (expired or nacked, never
    reissued by `C03_ack_ids_fresh`) or already acknowledged — changes nothing at all. -/
theorem C02_noop (s : SubState) (ids : List Nat) (h : ∀ a ∈ ids, s.out.lookup a = none) :
    (s.turn (.ack ids)).1 = s := by
  simp only [SubState.turn]
  split
  · rfl
  · rw [remove_noop ids s.out h]

/-! non-vacuity: message 7 is acknowledged; after every deadline has passed an expiry and a pull
    bring back only message 8 -/
example :
    let s0 := (SubState.init 10000000).exec [.post [⟨7, [], [], 0⟩, ⟨8, [], [], 0⟩], .pull 1 0]
    s0.out.msgs.map (·.ack) = [1] ∧ s0.backlog.map (·.id) = [8] ∧
    ((s0.turn (.ack [1])).1.exec [.expire 99999999, .pull 10 99999999]).out.msgs.map (·.msg.id) = [8] := by
  decide

/-- C02 (system level): an Acknowledge on one subscription leaves the state of every other
    subscription — in particular other subscriptions' copies of the same message — untouched, and
    changes no topic, no manager entry, no registry entry. -/
theorem C02_other_subs (sys : Sys) (raw : Bytes) (ids : List Bytes) (n : Name) (e : SubEnt)
    (hp : parseSubName raw = some n) (hf : sys.findSub n = some e) (sid' : Nat) (hne : sid' ≠ e.sid) :
    (sys.rpc (.ack raw ids)).1.stateOf sid' = sys.stateOf sid' ∧ (sys.rpc (.ack raw ids)).1.skel = sys.skel := by
  cases hids : parseAckIds ids with
  | none => simp [Sys.rpc, hids]
  | some as =>
    simp only [Sys.rpc, hids, hp, hf]
    have hd := subReq_data sys e.sid (.ack as) (by simp)
    exact ⟨hd.other hne, hd.skel⟩

/-! non-vacuity: two subscriptions on one topic -/
example :
    let s1 := (exSys.rpc (.publish exT [([1], [])])).1
    let s2 := (s1.rpc (.pull exS1 10 true)).1
    let s3 := (s2.rpc (.pull exS2 10 true)).1
    let s4 := (s3.rpc (.ack exS1 [[49]])).1
    (s4.stateOf 2).map (fun st => st.out.len) = some 0 ∧ (s4.stateOf 3).map (fun st => st.out.len) = some 1 := by decide

/-- C02 (system level, all histories): after ANY sequence of requests, stream operations and time
    advances, the two structures of every registered subscription's outstanding-message tracker
    agree (the invariant behind the `unwrap_unchecked`s of `take_expired`), so an acknowledged
    delivery is gone from both and can never be taken by an expiry again. -/
theorem C02_system_tracker_consistent (ops : List SysOp) :
    ∀ e ∈ (Sys.init.execOps ops).subs, e.st.out.Inv ∧ e.st.deleted = false :=
  fun e he => ⟨(SubsOk_all ops e he).1.out, (SubsOk_all ops e he).2⟩

/-- The L1 theorems of this file (and of C01, C03, C04, C05, C08) quantify over all turn sequences of
    one subscription actor; by the bridge `Sys_subs_are_turn_runs` every subscription of every
    reachable system state is such a run. -/
theorem C02_reachable_is_turn_run (ops : List SysOp) : ∀ e ∈ (Sys.init.execOps ops).subs, IsTurnRun e.st :=
  Sys_subs_are_turn_runs ops

end Deltio
