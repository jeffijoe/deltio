import Deltio.Lemmas.Names
/-
  C18 — Resource names are parsed canonically.
  `middle` is `"/topics/"` or `"/subscriptions/"`; every theorem is for all byte strings.
-/
namespace Deltio

/-- Clause 1: a string is accepted only if it is `projects/` ++ project-without-slash ++ the
    literal middle segment ++ an id (the stored id is the rest with `/` trimmed at both ends). -/
theorem C18_shape (middle s : Bytes) (n : Name) (h : parseName middle s = some n) :
    slash ∉ n.1 ∧ ∃ r, s = projectsPrefix ++ n.1 ++ middle ++ r ∧ n.2 = trimSlashes r := by
  unfold parseName at h
  split at h
  · simp at h
  · rename_i rest hrest
    simp only at h
    split at h
    · simp at h
    · split at h
      · simp at h
      · rename_i r hr
        cases h
        refine ⟨fun hmem => by simpa using List.all_eq_true.mp List.all_takeWhile _ hmem, r, ?_, rfl⟩
        rw [stripPrefix_eq_some.mp hrest, List.append_assoc, List.append_assoc, ← stripPrefix_eq_some.mp hr,
          List.takeWhile_append_dropWhile]

/-- Clause 2: the canonical (echoed) form of an accepted name is accepted and denotes the same
    resource. `hm` holds for both literal segments (they start with `/`). -/
theorem C18_canonical (middle s : Bytes) (n : Name) (m' : Bytes) (hm : middle = slash :: m')
    (h : parseName middle s = some n) :
    parseName middle (displayName middle n) = some n := by
  obtain ⟨hp, r, _, hr⟩ := C18_shape middle s n h
  rw [parseName_display hm hp, hr, trimSlashes_idem, ← hr]

theorem C18_canonical_topic (s : Bytes) (n : Name) (h : parseTopicName s = some n) :
    parseTopicName (displayTopic n) = some n :=
  C18_canonical topicsMiddle s n _ rfl h

theorem C18_canonical_sub (s : Bytes) (n : Name) (h : parseSubName s = some n) :
    parseSubName (displaySub n) = some n :=
  C18_canonical subsMiddle s n _ rfl h

/-- Clause 3: names that differ in project or id have different canonical forms, hence (the
    parsed pair being the map key) denote different resources. -/
theorem C18_distinct (middle m' : Bytes) (hm : middle = slash :: m') (n₁ n₂ : Name)
    (h₁ : slash ∉ n₁.1) (h₂ : slash ∉ n₂.1)
    (h : displayName middle n₁ = displayName middle n₂) : n₁ = n₂ := by
  have e := congrArg (parseName middle) h
  rw [parseName_display hm h₁, parseName_display hm h₂] at e
  have e1 : n₁.1 = n₂.1 := (Prod.mk.inj (Option.some.inj e)).1
  rw [displayName, displayName, e1] at h
  exact Prod.ext e1 (List.append_cancel_left h)

/-- Two accepted strings denote the same resource iff their parsed pairs are equal; parsed pairs
    with different project or id print differently. -/
theorem C18_distinct_parsed (middle m' : Bytes) (hm : middle = slash :: m') (s₁ s₂ : Bytes)
    (n₁ n₂ : Name) (h₁ : parseName middle s₁ = some n₁) (h₂ : parseName middle s₂ = some n₂)
    (hne : n₁ ≠ n₂) : displayName middle n₁ ≠ displayName middle n₂ := fun h =>
  hne (C18_distinct middle m' hm n₁ n₂ (C18_shape _ _ _ h₁).1 (C18_shape _ _ _ h₂).1 h)

/-! non-vacuity: `projects/p/topics/a/` parses to (`p`, `a`) -/
example : parseTopicName ([112,114,111,106,101,99,116,115,47, 112, 47,116,111,112,105,99,115,47, 97, 47])
    = some ([112], [97]) := by decide

/-! non-vacuity: the canonical form `projects/p/topics/a` (19 bytes) is accepted -/
example : parseTopicName (displayTopic ([112], [97])) = some ([112], [97]) := by decide

/-! The parser of the pinned tree (before the `fix:` commit) violated clauses 1 and 2. -/

/-- `projects/p/subscriptions/x` was accepted as the *topic* `ptions/x` of project `p`. -/
theorem C18_pinned_middle_not_compared :
    parseNamePinned 8 (projectsPrefix ++ [112] ++ subsMiddle ++ [120])
      = some ([112], [112,116,105,111,110,115,47,120]) := by decide

/-- `projects/p/topics/a/` was accepted as (`p`,`a`) but its canonical form was rejected. -/
theorem C18_pinned_canonical_rejected :
    parseNamePinned 8 (projectsPrefix ++ [112] ++ topicsMiddle ++ [97, 47]) = some ([112], [97]) ∧
    parseNamePinned 8 (displayTopic ([112], [97])) = none := by decide

end Deltio
