import Deltio.Lemmas.SysStep
/-
  C17 — Malformed requests are rejected cleanly and change nothing. The model's handlers are total functions into
  (state × gRPC status / response); that the Rust does not panic or hang on these inputs is what the correspondence
  run adds (every case under catch_unwind with a virtual-time watchdog).
  `Lemmas.SysStep` is imported for the equation lemmas of `Sys.rpc` it has already generated.
-/
namespace Deltio

/-- The malformed-field predicate of the statement, per request kind. -/
def Malformed (now : Nat) : Req → Prop
  | .createTopic n => parseTopicName n = none
  | .getTopic n => parseTopicName n = none
  | .deleteTopic n => parseTopicName n = none
  | .listTopics p size tok => parsePaging size (bytesToNats tok) = none ∨ parseProject p = none
  | .listTopicSubs t size tok => parseTopicName t = none ∨ parsePaging size (bytesToNats tok) = none
  | .createSub n t _ push => parseTopicName t = none ∨ parseSubName n = none ∨ (∃ p, push = some p ∧ parsePushCfg p = none)
  | .getSub n => parseSubName n = none
  | .listSubs p size tok => parsePaging size (bytesToNats tok) = none ∨ parseProject p = none
  | .deleteSub n => parseSubName n = none
  | .publish t _ => parseTopicName t = none
  | .pull n _ _ => parseSubName n = none
  | .ack n ids => parseAckIds ids = none ∨ parseSubName n = none
  | .modAck n secs ids => parseMods now ids (ids.map (fun _ => secs)) = none ∨ parseSubName n = none
  | .unimplemented => False

/-- A malformed field is answered INVALID_ARGUMENT and the state is unchanged — for every request
    kind, every state, every other field value. -/
theorem C17_invalid_argument (sys : Sys) (r : Req) (h : Malformed sys.clock r) :
    sys.rpc r = (sys, .err .invalidArgument) := by
  cases r with
  | createTopic | getTopic | deleteTopic | getSub | deleteSub | publish | pull =>
    simp only [Malformed] at h; simp [Sys.rpc, h]
  | listTopics | listTopicSubs | listSubs | ack | modAck =>
    simp only [Malformed] at h
    rcases h with h | h
    · simp [Sys.rpc, h]
    · simp only [Sys.rpc, h]; split <;> rfl
  | createSub n t a push =>
    simp only [Malformed] at h
    rcases h with h | h | ⟨p, rfl, hp⟩
    · simp [Sys.rpc, h]
    · simp only [Sys.rpc, h]; split <;> rfl
    · simp only [Sys.rpc, hp, Option.map_none]
      split
      · rfl
      · split <;> rfl
  | unimplemented => exact absurd h (by simp [Malformed])

/-- One bad element at any position of an otherwise valid batch of ack ids rejects the batch. -/
theorem C17_bad_element_position (pre post : List Bytes) (bad : Bytes) (hb : parseAckId bad = none) :
    parseAckIds (pre ++ bad :: post) = none := by
  induction pre with
  | nil => simp [parseAckIds, hb]
  | cons p ps ih =>
    simp only [List.cons_append, parseAckIds, ih]
    cases parseAckId p <;> rfl

-- `backward.split false` selects the newer `split`, which reduces only the `if` it splits; the default one also tries to
-- discharge every `if` nested in the term against every hypothesis, at every split: the same proof, far slower to check here.
set_option backward.split false in
/-- Every request that is answered with an error status (validation or lookup failure) leaves the
    state unchanged; only OK responses change anything. Hence the server keeps serving all other
    resources exactly as before. -/
theorem C17_rejected_changes_nothing (sys : Sys) (r : Req) (st : Status) (h : (sys.rpc r).2 = .err st) :
    (sys.rpc r).1 = sys := by
  -- at every leaf of `Sys.rpc` the response is an error only where the state returned is `sys`
  generalize hr : sys.rpc r = res at h ⊢
  cases r <;> dsimp only [Sys.rpc] at hr <;> (repeat' split at hr) <;> subst hr <;> cases h <;> rfl

set_option backward.split false in -- the newer `split`, as above
theorem validateCtl_error {now : Nat} {c : StreamCtl} {st : Status} (h : validateCtl now c = .error st) :
    st = .invalidArgument := by
  unfold validateCtl at h
  repeat' split at h
  all_goals cases h <;> rfl

set_option backward.split false in -- the newer `split`, as above
/-- A StreamingPull control message that fails validation — subscription set, positive
    max_*, lists of different length, a malformed ack id or modify id, negative seconds — applies
    none of its acknowledgements or modifications: the subscription state is untouched and the
    stream ends with INVALID_ARGUMENT. -/
theorem C17_stream_ctl_atomic (sys : Sys) (k : Nat) (c : StreamCtl) (st : Status)
    (h : validateCtl sys.clock c = .error st) :
    (sys.streamSend k c).subs = sys.subs ∧ (sys.streamSend k c).topics = sys.topics ∧ st = .invalidArgument := by
  refine ⟨?_, ?_, validateCtl_error h⟩ <;>
  · unfold Sys.streamSend
    split
    · rfl
    · split
      · rfl
      · rw [h]; rfl

/-! non-vacuity: negative seconds in a ModifyAckDeadline are malformed; a stream control message whose
    modify id does not parse is rejected although its ack id is valid -/
example : Malformed 0 (.modAck (displaySub ([112], [115])) (-1) [[49]]) := by
  left; decide
example : validateCtl 0 { subscription := [], ackIds := [[49]], modIds := [[120]], modSecs := [10], maxMsgs := 0, maxBytes := 0 }
    = .error .invalidArgument := by rfl

end Deltio
