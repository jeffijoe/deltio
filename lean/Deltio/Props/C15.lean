import Deltio.Lemmas.Timer
/-
  C15 — Pull batches respect their size limit and are empty only when allowed. For all inputs, the 16-bit
  conversions of the limit and of the backlog length included; the empty-response rule goes through the
  blocking-pull loop and the timer loop of the system model.
-/
namespace Deltio

/-- Number of messages in the response of one pull turn (subscription not deleted). -/
theorem C15_capacity (s : SubState) (max16 now : Nat) (hd : s.deleted = false) :
    (s.turn (.pull max16 now)).2.delivered.length = pullCount max16 s.backlog.length :=
  pull_length s max16 now hd

/-- Unary Pull: `max_messages ≥ 1` (any i32) never yields more than `max_messages` messages,
    including the values where the 16-bit conversion wraps (65536 ↦ 0 ↦ one message). -/
theorem C15_unary (mx : Int) (backlogLen : Nat) (h1 : 1 ≤ mx) :
    (pullCount (i32AsU16 mx) backlogLen : Int) ≤ mx := by
  have := pullCount_le (i32AsU16 mx) backlogLen
  unfold i32AsU16 at *
  omega

/-- StreamingPull: `max_outstanding_messages` outside `[0, 65535]` is rejected; inside, every
    response has at most that many messages when it is positive. -/
theorem C15_stream (mo : Int) :
    (i32TryU16 mo = none ↔ (mo < 0 ∨ 65535 < mo)) ∧
    (∀ m16, i32TryU16 mo = some m16 → 1 ≤ mo → ∀ backlogLen, (pullCount m16 backlogLen : Int) ≤ mo) := by
  unfold i32TryU16
  constructor
  · split <;> simp <;> omega
  · intro m16 h hpos bl
    split at h
    · cases h
      have := pullCount_le mo.toNat bl
      omega
    · cases h

/-- A response is never empty when the backlog is not. -/
theorem C15_nonempty (max16 backlogLen : Nat) (h : 0 < backlogLen) : 0 < pullCount max16 backlogLen :=
  pullCount_pos max16 h

/-! non-vacuity: the wrap-around corners, `max_messages` 65536 ↦ 0 and 65537 ↦ 1 give one message; a
    backlog of 70000 is 4464 `as u16`, which bounds a limit of 65535 (from `i32::MAX`, from −1) but not
    a limit of 1000 -/
example : pullCount (i32AsU16 65536) 5000 = 1 := by decide
example : pullCount (i32AsU16 65537) 5000 = 1 := by decide
example : pullCount (i32AsU16 2147483647) 70000 = 4464 := by decide
example : pullCount (i32AsU16 1000) 70000 = 1000 := by decide
example : pullCount (i32AsU16 (-1)) 70000 = 4464 := by decide

/-- C15, the empty-response rule at system level for every state satisfying the global invariants
    (all reachable ones: `SubsOk_all`, `SysInv_all`) in which no StreamingPull is open and at most 10^6
    deliveries are outstanding: a Pull without `return_immediately` on an existing subscription
    answers with an empty response only if the clock has reached its wait limit. -/
theorem C15_blocking_pull (sys : Sys) (raw : Bytes) (mx : Int) (n : Name) (e : SubEnt)
    (hp : parseSubName raw = some n) (hf : sys.findSub n = some e)
    (hs : sys.streams = []) (hok : SubsOk sys) (hinv : SysInv sys) (hfuel : sys.totalOut ≤ 1000000)
    (hempty : (sys.rpc (.pull raw mx false)).2 = .msgs []) :
    ceilMs (sys.clock + pullLimitUs) + sys.clock % 1000 ≤ (sys.rpc (.pull raw mx false)).1.clock := by
  have hu := SidsUnique_of_SysInv hinv
  have hmem : e ∈ sys.subs := List.mem_of_find?_eq_some hf
  have hst0 := stateOf_of_find (find?_key_of_nodup hu hmem)
  -- the state after the first pull turn: all that the rest needs of it
  have hd1 := subTurn_data sys e.sid (.pull (i32AsU16 mx) sys.clock) (by simp)
  have hok1 := hd1.subsOk hok
  have hu1 := SidsUnique_of_skel hd1.skel hu
  have hs1 := (subTurn_streams sys e.sid (.pull (i32AsU16 mx) sys.clock)).trans hs
  have hfuel1 := fun hd => Nat.le_trans (empty_pull_totalOut (m16 := i32AsU16 mx) hok hu hmem hd) hfuel
  obtain ⟨e1, he1, -⟩ := find_of_stateOf (stateOf_subTurn_self (.pull (i32AsU16 mx) sys.clock) hst0)
  generalize hr : sys.rpc (.pull raw mx false) = r at hempty ⊢
  simp only [Sys.rpc, hp, hf, Bool.or_false] at hr
  generalize sys.subTurn e.sid (.pull (i32AsU16 mx) sys.clock) = p at hr hok1 hu1 hs1 hfuel1 he1
  by_cases hd : p.2.delivered = []
  · rw [if_neg (by simp [hd])] at hr
    by_cases hb : p.1.backlogNonEmpty e.sid = true
    · -- woken at once by the expiry re-check
      rw [if_pos hb] at hr
      subst hr
      exact absurd (Resp.msgs.inj hempty) (subTurn_pull_nonempty hok1 hb _ _)
    · rw [if_neg hb, he1] at hr
      cases hn : e1.st.out.nextExpiration with
      | none =>
        simp only [hn, Option.map_none] at hr
        subst hr
        exact advanceTo_clock_ge _ _ _ _
      | some d =>
        simp only [hn, Option.map_some] at hr
        by_cases hlt : ceilMs d + sys.clock % 1000 < ceilMs (sys.clock + pullLimitUs) + sys.clock % 1000
        · -- woken by the expiry timer before the limit: the empty first pull added nothing outstanding, so the fuel
          -- of the wait suffices and the pull after it finds the backlog non-empty
          rw [if_pos hlt] at hr
          subst hr
          exact absurd (Resp.msgs.inj hempty) (subTurn_pull_nonempty ((advanceTo_data _ _ _ _).subsOk hok1)
            (advanceTo_wakes hs1 hok1 hu1 (hfuel1 hd) he1 hn (Nat.le_refl _)) _ _)
        · rw [if_neg hlt] at hr
          subst hr
          exact advanceTo_clock_ge _ _ _ _
  · -- something was delivered at once
    rw [if_pos (by simpa using hd)] at hr
    subst hr
    exact absurd (Resp.msgs.inj hempty) hd

/-- C15's empty-response rule for every reachable state. -/
theorem C15_blocking_pull_reachable (ops : List SysOp) (raw : Bytes) (mx : Int) (n : Name) (e : SubEnt)
    (hp : parseSubName raw = some n) (hf : (Sys.init.execOps ops).findSub n = some e)
    (hs : (Sys.init.execOps ops).streams = [])
    (hfuel : (Sys.init.execOps ops).totalOut ≤ 1000000)
    (hempty : ((Sys.init.execOps ops).rpc (.pull raw mx false)).2 = .msgs []) :
    ceilMs ((Sys.init.execOps ops).clock + pullLimitUs) + (Sys.init.execOps ops).clock % 1000
      ≤ ((Sys.init.execOps ops).rpc (.pull raw mx false)).1.clock :=
  C15_blocking_pull _ raw mx n e hp hf hs (SubsOk_all ops) (SysInv_all ops) hfuel hempty

/-! non-vacuity: on `exSys` (Lemmas/SysSub.lean), an empty answer exactly at the 300 s limit; a non-empty
    answer as soon as the lease of the only message has expired (10 s) -/
example : (exSys.rpc (.pull exS1 10 false)).2 = .msgs [] ∧ (exSys.rpc (.pull exS1 10 false)).1.clock = 300000000 := by decide
example :
    let s1 := (exSys.rpc (.publish exT [([1], [])])).1
    let s2 := (s1.rpc (.pull exS1 10 true)).1          -- leased until 10 s
    (s2.rpc (.pull exS1 10 false)).2 ≠ .msgs [] ∧ (s2.rpc (.pull exS1 10 false)).1.clock = 10000000 := by decide

end Deltio
