import Deltio.Lemmas.Wake
import Deltio.Lemmas.Drain
/-
  C06 — Waiting consumers are woken when a message becomes available.
  Slice P2: all interleavings, any number of consumers of both kinds (unary Pulls, StreamingPull loops), any
  batch limits, consumers cancelled while waiting or while being woken. The two Booleans of `step` / `run` are
  `bounded` (the mailbox can be full) and `renotify` (the repaired actor loop); the invariant is `WakeInv`.
-/
namespace Deltio
open P2

/-- No lost wake-up / hand-off: in every reachable quiescent state — no pull request queued,
    nobody notified-but-not-run, nobody between result and wait — a queued message implies that
    NO consumer is parked. Equivalently: while any consumer waits, no message stays queued. -/
theorem C06_no_lost_wakeup (ls : List Label) (s : State) (hr : run false false P2.init ls = some s)
    (hq : Quiescent s) (hd : s.deleted = false) (hb : s.backlog > 0) : s.parked = 0 :=
  WakeInv.no_lost_wakeup id hr hq hd hb

/-- The Notify model: a stored permit is consumed by exactly one poll; a notified waiter that is
    dropped before running forwards the notification. -/
theorem C06_notify_model_ok (s : State) :
    (s.permit = true → s.g0 > 0 → s.deleted = false →
      ∃ s', step false false s .poll = some s' ∧ s'.permit = false ∧ s'.q = s.q + 1) ∧
    (s.notif > 0 → ∃ s', step false false s .cancelNotified = some s' ∧
      ((s.parked > 0 ∧ s'.notif = s.notif ∧ s'.parked = s.parked - 1) ∨ (s.parked = 0 ∧ s'.permit = true))) := by
  constructor
  · intro hp hg hd
    have : ¬ s.g0 = 0 := Nat.ne_zero_of_lt hg
    simp [step, this, hd, hp]
  · intro hn
    have : ¬ s.notif = 0 := Nat.ne_zero_of_lt hn
    simp only [step, this, ↓reduceIte, notifyOne]
    by_cases hpk : s.parked > 0
    · simp [hpk, Nat.sub_add_cancel hn]
    · simp [Nat.eq_zero_of_not_pos hpk]

def swallowed : State :=
  { backlog := 1, permit := false, q := 0, g0 := 0, gp := 0, parked := 1, notif := 0, blk := 0, other := 0,
    deleted := false, ended := 0, silent := 0 }

/-- The bounded-mailbox corner of the code before fix commit 094936c: a woken consumer that is
    abandoned while its next pull request is blocked on a FULL subscription mailbox has consumed the
    notification and forwards nothing. Two consumers park, one message is posted, the woken consumer
    blocks and is cancelled — quiescent, one message queued, one consumer parked for ever. -/
theorem C06_pinned_swallowed :
    run true false P2.init [.arrive, .arrive, .pullTurn 1, .pullTurn 1, .poll, .poll, .otherArrive, .post 1, .block, .cancelBlocked, .otherTurn] = some swallowed ∧
      Quiescent swallowed ∧ swallowed.backlog = 1 ∧ swallowed.parked = 1 := by
  refine ⟨by decide, ?_, rfl, rfl⟩
  unfold Quiescent; decide

/-! The repaired actor loop (fix commit 094936c) re-notifies after every handled request while the
    backlog is non-empty. The token invariant (`WakeInv true`) then also counts the queued non-pull requests, and
    survives the abandonment of a consumer blocked on a full mailbox. -/

/-- No lost wake-up with bounded mailboxes and cancellation at EVERY await, including a woken
    consumer abandoned while its pull request waits for room in a full mailbox. -/
theorem C06_no_lost_wakeup_bounded (ls : List Label) (s : State) (hr : run true true P2.init ls = some s)
    (hq : Quiescent s) (hd : s.deleted = false) (hb : s.backlog > 0) : s.parked = 0 :=
  WakeInv.no_lost_wakeup id hr hq hd hb

/-! non-vacuity: two parked consumers, three messages, batch limit 1: each pull turn that leaves a
    message queued wakes the next consumer; the message left at the end is covered by the stored permit -/
example : run false false P2.init [.arrive, .arrive, .pullTurn 1, .pullTurn 1, .poll, .poll, .post 3, .wake, .pullTurn 1, .wake, .ret false,
      .pullTurn 1, .ret false] =
    some { backlog := 1, permit := true, q := 0, g0 := 0, gp := 0, parked := 0, notif := 0, blk := 0, other := 0, deleted := false, ended := 0, silent := 0 } := by
  decide

/-- C06 (system model, all admissible sequential histories — any requests, stream operations and
    time advances, with a possibly blocking Pull only on a subscription nobody streams from): at
    every moment, for every open StreamingPull, nothing is queued on its subscription. Whatever
    became available — by publish, nack, deadline expiry, through the expiry re-check after any
    request — has been handed to a stream: the pull loop's fuel always suffices
    (`drainStream_drains`) and every step that can queue a message is followed by the drain. -/
theorem C06_streams_drained (ops : List SysOp) (hadm : Sys.init.admitsAll ops) :
    ∀ s ∈ (Sys.init.execOps ops).streams, s.ended = false →
      ∀ st, (Sys.init.execOps ops).stateOf s.sid = some st → st.backlog = [] :=
  (DrainInv_execOps ops Sys.init DrainInv_init hadm).drained

/-! non-vacuity: a stream opened on `p/a`, then a publish: delivered to the stream, nothing queued -/
example :
    let s1 := (exSys.streamOpen 1 exS1 10).1
    let s2 := (s1.rpc (.publish exT [([1], [])])).1
    (s2.stateOf 2).map (fun st => (st.backlog.length, st.out.msgs.length)) = some (0, 1) ∧
    (s2.streams.map (fun s => s.outbox.length)) = [1] ∧
    (s2.stateOf 3).map (fun st => st.backlog.length) = some 1 := by decide

end Deltio
