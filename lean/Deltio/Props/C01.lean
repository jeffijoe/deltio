import Deltio.Lemmas.SubTurn
import Deltio.Lemmas.SysSub
import Deltio.Lemmas.SysInv
import Deltio.Lemmas.Fanout
/-
  C01 — Fan-out without loss: every accepted message reaches every attached subscription. Three levels:
  one subscription actor over all its turn sequences (= all schedules of any number of clients), the system
  model, slice P6 (all interleavings of the messages between topic actor and subscription actors).
-/
namespace Deltio

/-- Conservation (no loss, no duplication, nothing foreign). From a fresh subscription, after any
    sequence of turns without deletion: the queued + leased + acknowledged messages are exactly a
    permutation of the posted ones. -/
theorem C01_conservation (ackDl : Nat) (ts : List SubTurn) (hn : NoDelete ts) :
    (held ((SubState.init ackDl).exec ts) ++ ackedIn (SubState.init ackDl) ts).Perm (postedIn ts) := by
  simpa [held, SubState.init, Tracker.empty] using exec_conserve (SubInv_init ackDl) rfl ts hn

/-- Every posted message is, at the end, in exactly one of: backlog, outstanding, acknowledged;
    and nothing else is in the backlog or outstanding. `hfresh`: posted message ids are distinct
    (they are, by `C09_ids_injective`). -/
theorem C01_partition (ackDl : Nat) (ts : List SubTurn) (hn : NoDelete ts)
    (hfresh : ((postedIn ts).map (·.id)).Nodup) :
    let s := (SubState.init ackDl).exec ts
    (∀ m, m ∈ postedIn ts ↔ (m ∈ s.backlog ∨ m ∈ s.out.msgs.map (·.msg) ∨ m ∈ ackedIn (SubState.init ackDl) ts)) ∧
    ((s.backlog ++ s.out.msgs.map (·.msg) ++ ackedIn (SubState.init ackDl) ts).map (·.id)).Nodup := by
  intro s
  have hc := C01_conservation ackDl ts hn
  constructor
  · intro m
    rw [← hc.mem_iff]
    simp [held, s]
  · exact ((hc.map (·.id)).nodup_iff).mpr hfresh

/-- Once every lease has run out (an expiry turn at a time at or after every deadline), every
    unacknowledged message is back in the queue: nothing stays leased. -/
theorem C01_all_requeued {s : SubState} (h : SubInv s) (T : Nat) (hT : ∀ d ∈ s.out.msgs, d.deadline ≤ T) :
    (s.turn (.expire T)).1.out.msgs = [] ∧
    ((s.turn (.expire T)).1.backlog).Perm (held s) := by
  obtain ⟨out', ds, he, _, hp, _, h4, _⟩ := expire_turn h T
  have hempty : out'.msgs = [] := List.eq_nil_iff_forall_not_mem.mpr fun x hx => by
    have := (h4 x).mp hx; have := hT x this.1; omega
  rw [he]
  rw [hempty, List.nil_append] at hp
  exact ⟨hempty, List.Perm.append_left _ (hp.map _)⟩

/-- The messages that consecutive pull turns `(max_messages, now)` deliver, in delivery order. -/
def pullsOut (s : SubState) : List (Nat × Nat) → List Msg
  | [] => []
  | (mx, now) :: rest => ((s.turn (.pull mx now)).2.delivered.map (·.msg)) ++ pullsOut (s.turn (.pull mx now)).1 rest

/-- Draining: `k ≥ |backlog|` consecutive pulls (any `max_messages`, any times) deliver every
    queued message, in queue order. Together with `C01_all_requeued`: an unacknowledged message is
    delivered again after every expiry of its lease — for ever, until acknowledged. -/
theorem C01_drain : ∀ (ps : List (Nat × Nat)) (s : SubState), s.deleted = false → s.backlog.length ≤ ps.length →
    pullsOut s ps = s.backlog := by
  intro ps
  induction ps with
  | nil => intro s _ hl; simp at hl; simp [pullsOut, hl]
  | cons p rest ih =>
    intro s hd hl
    obtain ⟨mx, now⟩ := p
    have hfifo := pull_fifo s mx now hd
    have hcap := pull_length s mx now hd
    have hlen : (s.turn (.pull mx now)).1.backlog.length ≤ rest.length := by
      have := congrArg List.length hfifo
      simp only [List.length_append, List.length_map, hcap, pullCount, List.length_cons] at this hl
      omega
    rw [pullsOut, ih _ ((turn_deleted _ (by simp)).trans hd) hlen, hfifo]

/-- Nothing foreign: a subscription only ever holds or delivers messages that were posted to it. -/
theorem C01_no_foreign (ackDl : Nat) (ts : List SubTurn) (hn : NoDelete ts) (u : SubTurn) :
    ∀ x ∈ (((SubState.init ackDl).exec ts).turn u).2.delivered, x.msg ∈ postedIn ts := by
  intro x hx
  have hb := (delivered_from_backlog _ u x hx).1
  exact (C01_conservation ackDl ts hn).mem_iff.mp (List.mem_append_left _ (List.mem_append_left _ hb))

/-! non-vacuity: one message in each of the three places (id 3 queued, id 2 leased, id 1 acknowledged) -/
example :
    let ts : List SubTurn := [.post [⟨1, [], [], 0⟩, ⟨2, [], [], 0⟩], .pull 1 0, .ack [1], .post [⟨3, [], [], 0⟩], .pull 1 5]
    let s := (SubState.init 10000000).exec ts
    s.backlog.map (·.id) = [3] ∧ s.out.msgs.map (·.msg.id) = [2] ∧ (ackedIn (SubState.init 10000000) ts).map (·.id) = [1] := by
  decide

/-- C01 (system level, no StreamingPull open): Publish returns one id per message and hands
    exactly those messages — in order, with those ids — to every subscription attached to the topic
    by one `post` turn each; every other subscription is untouched. -/
theorem C01_fanout (sys : Sys) (raw : Bytes) (msgs : List (Bytes × List (Bytes × Bytes))) (n : Name) (t : TopicEnt)
    (hp : parseTopicName raw = some n) (hf : sys.findTopic n = some t) (hs : sys.streams = [])
    (hnd : (t.subs.map (·.2)).Nodup) :
    let ms := mkMsgs t.tid t.nextMsg sys.pubSeq msgs 0
    (sys.rpc (.publish raw msgs)).2 = .ids (ms.map (·.id)) ∧
    (∀ sid', sid' ∉ t.subs.map (·.2) → (sys.rpc (.publish raw msgs)).1.stateOf sid' = sys.stateOf sid') ∧
    (∀ sid ∈ t.subs.map (·.2), ∀ st, sys.stateOf sid = some st →
        (sys.rpc (.publish raw msgs)).1.stateOf sid = some ((st.turn (.post ms)).1.turn (.expire sys.clock)).1) := by
  intro ms
  simp only [Sys.rpc, hp, hf]
  exact ⟨rfl, postAll_spec ms t.subs _ hs hnd⟩

theorem attached_nodup {sys : Sys} (h : SysInv sys) (t : TopicEnt) (ht : t ∈ sys.topics) : (t.subs.map (·.2)).Nodup := by
  rw [h.attached ht, List.map_map]
  -- a sublist of the subscription ids, which increase
  exact (h.keys.2.2.2.sublist (List.filter_sublist.map _)).imp Nat.ne_of_lt

/-- C01 (system level) for every reachable state: after ANY history that leaves no StreamingPull
    open, a Publish hands its messages, by one `post` turn each, to exactly the subscriptions
    attached to the topic — which are exactly the live subscriptions created on it (`C11_list_eq`). -/
theorem C01_fanout_reachable (ops : List SysOp) (raw : Bytes) (msgs : List (Bytes × List (Bytes × Bytes))) (n : Name) (t : TopicEnt)
    (hp : parseTopicName raw = some n) (hf : (Sys.init.execOps ops).findTopic n = some t)
    (hs : (Sys.init.execOps ops).streams = []) :
    let sys := Sys.init.execOps ops
    let ms := mkMsgs t.tid t.nextMsg sys.pubSeq msgs 0
    (sys.rpc (.publish raw msgs)).2 = .ids (ms.map (·.id)) ∧
    (∀ sid', sid' ∉ t.subs.map (·.2) → (sys.rpc (.publish raw msgs)).1.stateOf sid' = sys.stateOf sid') ∧
    (∀ sid ∈ t.subs.map (·.2), ∀ st, sys.stateOf sid = some st →
        (sys.rpc (.publish raw msgs)).1.stateOf sid = some ((st.turn (.post ms)).1.turn (.expire sys.clock)).1) :=
  C01_fanout _ raw msgs n t hp hf hs (attached_nodup (SysInv_all ops) t (List.mem_of_find?_eq_some hf))

/-! non-vacuity: two subscriptions on one topic -/
example :
    let s1 := (exSys.rpc (.publish exT [([1], [])])).1
    (s1.stateOf 2).map (fun st => st.backlog.map (·.data)) = some [[1]] ∧
    (s1.stateOf 3).map (fun st => st.backlog.map (·.data)) = some [[1]] := by decide

/-! Slice P6: any number of publishers, other clients and subscriptions, any mailbox capacity, any schedule of
the atomic steps. -/

/-- **No loss under any schedule.** When a Publish has been answered with its ids (`ok`), the post of
    its batch has reached EVERY subscription that was attached when the topic actor accepted it: it
    is in that subscription's mailbox or was handled by its actor (in `seq`), unless the
    subscription's actor has exited (it was deleted). -/
theorem C01_schedules (cap : Nat) (s : P6.State) (h : P6.Reachable (P6.init cap) s)
    (d : P6.Done) (hd : d ∈ s.done) (hok : d.ok = true) (x : Nat) (hx : x ∈ d.fan) :
    P6.Delivered s x d.b :=
  (P6.inv_reachable h).okDone d hd hok x hx

/-- The fan-out set of a publish turn is the topic actor's attached set at the moment the turn
    begins (every `attach` handled before, no `remove` since). -/
theorem C01_fan_is_attached (s s' : P6.State) (r n : Nat) (rest : List P6.TReq)
    (hc : s.cur = none) (ht : s.tmb = .publish r n :: rest) (h : P6.step s .topicTake = some s') :
    s'.cur = some { r := r, b := ⟨s.ctr, n⟩, fan := s.subs, pending := s.subs } := by
  simp [P6.step, hc, ht] at h; subst h; rfl

/-- **Nothing foreign under any schedule.** Whatever a subscription holds was published by a turn
    whose fan-out set contained it — never a message accepted before it was attached or after it
    was removed, never another topic's. -/
theorem C01_schedules_no_foreign (cap : Nat) (s : P6.State) (h : P6.Reachable (P6.init cap) s)
    (x : Nat) (b : P6.Batch) (hb : b ∈ P6.seq s x) :
    (∃ d ∈ s.done, d.b = b ∧ x ∈ d.fan) ∨ (∃ c, s.cur = some c ∧ c.b = b ∧ x ∈ c.fan ∧ x ∉ c.pending) :=
  (P6.inv_reachable h).origin x b hb

/-- Mailboxes are FIFO queues: a step appends one request at the end, takes the head, or (actor
    exit) drops everything. So a request enqueued after a Publish was answered is handled after that
    Publish's post. -/
theorem C01_mailbox_fifo (s s' : P6.State) (l : P6.Label) (h : P6.step s l = some s') (x : Nat) :
    s'.smb x = s.smb x ∨ (∃ m, s'.smb x = s.smb x ++ [m]) ∨ (∃ m, s.smb x = m :: s'.smb x) ∨ s'.smb x = [] := by
  cases l <;> dsimp only [P6.step] at h
  case cliPublish | cliAttach | cliRemove => obtain ⟨_, rfl⟩ := Option.ite_some_none_eq_some.mp h; exact .inl rfl
  case cliOther y => obtain ⟨_, rfl⟩ := Option.ite_some_none_eq_some.mp h; exact P6.fifo_of_upd (.inl ⟨_, rfl⟩) x
  case topicTake => split at h <;> cases h <;> exact .inl rfl
  case postDone y => (repeat' split at h) <;> cases h; exact P6.fifo_of_upd (.inl ⟨_, rfl⟩) x
  case postFail | reply => (repeat' split at h) <;> cases h; exact .inl rfl
  case subTake y => (repeat' split at h) <;> cases h <;> exact P6.fifo_of_upd (.inr (.inl ⟨_, ‹_›⟩)) x
  case subClose y => obtain ⟨_, h⟩ := Option.ite_none_left_eq_some.mp h; cases h; exact P6.fifo_of_upd (.inr (.inr rfl)) x

/-- A running publish turn can always make progress, whatever the mailboxes hold (capacity ≥ 1):
    the reply, a post that has room, a post that fails, or the turn of the subscription actor
    whose full mailbox blocks the post. -/
theorem C01_publish_turn_progress (s : P6.State) (hcap : 1 ≤ s.cap) (c : P6.Cur) (hc : s.cur = some c) :
    ∃ l, l.internal = true ∧ (P6.step s l).isSome = true := by
  cases hp : c.pending with
  | nil => exact ⟨.reply, rfl, by simp [P6.step, hc, hp]⟩
  | cons x rest =>
    have hx : x ∈ c.pending := by rw [hp]; simp
    cases hcl : s.closed x with
    | true => exact ⟨.postFail x, rfl, by simp [P6.step, hc, hx, hcl]⟩
    | false =>
      by_cases hl : (s.smb x).length < s.cap
      · exact ⟨.postDone x, rfl, by simp [P6.step, hc, hx, hcl, hl]⟩
      · refine ⟨.subTake x, rfl, ?_⟩
        cases hm : s.smb x with
        | nil => simp [hm] at hl; omega
        | cons m rest' => cases m <;> simp [P6.step, hcl, hm]

/-! non-vacuity: capacity 1, two subscriptions, two publishers; the first publish is answered while
    the second one's post to subscription 2 is still blocked behind the first one's. -/
example :
    (P6.run (P6.init 1)
      [.cliAttach 1, .topicTake, .cliAttach 2, .topicTake, .cliPublish 7 2, .topicTake, .cliPublish 8 1,
       .postDone 2, .postDone 1, .reply, .topicTake, .subTake 1, .postDone 1]).map
      (fun s => (s.done.map (fun d => (d.r, d.ok, d.fan)), s.cur.map (·.pending))) =
    some ([(7, true, [1, 2])], some [2]) ∧
    (P6.run (P6.init 1)
      [.cliAttach 1, .topicTake, .cliAttach 2, .topicTake, .cliPublish 7 2, .topicTake, .cliPublish 8 1,
       .postDone 2, .postDone 1, .reply, .topicTake, .subTake 1, .postDone 1]).map
      (fun s => (s.taken 1, P6.posts (s.smb 1), P6.posts (s.smb 2))) =
    some ([P6.Batch.mk 0 2], [P6.Batch.mk 2 1], [P6.Batch.mk 0 2]) := by decide

/-! non-vacuity: a post that finds the subscription's actor gone fails the Publish (no ids returned) -/
example :
    (P6.run (P6.init 1)
      [.cliAttach 1, .topicTake, .cliPublish 7 2, .subClose 1, .topicTake, .postFail 1]).map
      (fun s => s.done.map (fun d => (d.r, d.ok))) = some [(7, false)] := by decide

end Deltio
