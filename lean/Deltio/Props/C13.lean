import Deltio.Lemmas.SysInv
import Deltio.Lemmas.Base64
/-
  C13 — Listing and pagination enumerate exactly the project's resources.
-/
namespace Deltio

/-- Effective page size: the requested size, 20 if it is zero, at most 1000. -/
theorem C13_size (sz : Nat) (off : Option Nat) :
    (Paging.new sz off).effSize = if sz = 0 then 20 else min sz 1000 := by
  have h : (if sz > 1000 then 1000 else sz) = min sz 1000 := by
    simp only [Nat.min_def, ← Nat.not_lt, ite_not]
  unfold Paging.new Paging.effSize
  rw [h]
  split
  · rfl
  · exact Nat.min_eq_left (Nat.le_trans (Nat.min_le_right _ _) (by decide))

theorem effSize_pos (sz : Nat) (off : Option Nat) : 0 < (Paging.new sz off).effSize := by
  rw [C13_size]
  split
  · decide
  · exact Nat.lt_min.mpr ⟨Nat.pos_of_ne_zero ‹_›, by decide⟩

theorem page_length {α} (xs : List α) (p : Paging) :
    (p.page xs).length = min p.effSize (xs.length - p.toSkip) := by
  rw [Paging.page, List.length_take, List.length_drop]

/-- Never more than the effective size per page. -/
theorem C13_page_length {α} (xs : List α) (p : Paging) : (p.page xs).length ≤ p.effSize :=
  List.length_take_le _ _

theorem page_within {α} (xs : List α) (p : Paging) (h : (p.page xs).length ≠ 0) :
    p.toSkip + (p.page xs).length ≤ xs.length ∧ p.toSkip < xs.length := by
  have hle : (p.page xs).length ≤ xs.length - p.toSkip := page_length xs p ▸ Nat.min_le_right _ _
  have hlt := Nat.lt_of_sub_pos (Nat.lt_of_lt_of_le (Nat.pos_of_ne_zero h) hle)
  exact ⟨Nat.add_le_of_le_sub' (Nat.le_of_lt hlt) hle, hlt⟩

/-- A negative page size or a non-empty undecodable token is rejected, and nothing else is. -/
theorem C13_reject_iff (size : Int) (token : List Nat) :
    parsePaging size token = none ↔ (size < 0 ∨ (token ≠ [] ∧ decodeToken token = none)) := by
  unfold parsePaging i32TryUsize
  rw [← Int.not_le]
  by_cases hs : 0 ≤ size <;> cases token with
  | nil => simp [hs]
  | cons c cs => cases decodeToken (c :: cs) <;> simp [hs]

/-- Tokens the server issues decode to the offset they encode (for every `usize` offset). -/
theorem C13_token (n : Nat) (h : n < 18446744073709551616) : decodeToken (encodeToken n) = some n :=
  decode_encode_token n h

/-- Any offset whatsoever — issued or not — yields a page that is a contiguous part of the
    listing (possibly empty), and a next offset is only formed when the page is non-empty, in
    which case it does not exceed the length of the listing (no overflow for huge offsets). -/
theorem C13_any_token_ok {α} (xs : List α) (sz : Nat) (off : Nat) :
    let p := Paging.new sz (some off)
    (p.page xs).Sublist xs ∧
    (∀ o, p.nextOffset (p.page xs).length = some o → o ≤ xs.length ∧ off < xs.length) := by
  intro p
  refine ⟨(List.take_sublist _ _).trans (List.drop_sublist _ _), fun o ho => ?_⟩
  unfold Paging.nextOffset at ho
  split at ho
  · cases ho
    exact page_within xs p ‹_›
  · cases ho

/-- From any offset, with fuel above what is left: the pages concatenate to the rest of the list, none is
    longer than the effective size, the last one is empty (its token ends the walk). -/
theorem walk_concat {α} (xs : List α) (size : Nat) :
    ∀ (fuel : Nat) (off : Option Nat), xs.length - off.getD 0 < fuel →
      (walk xs size fuel off).flatten = xs.drop (off.getD 0) ∧
      (∀ pg ∈ walk xs size fuel off, pg.length ≤ (Paging.new size off).effSize) ∧
      (walk xs size fuel off).getLast? = some [] := by
  intro fuel
  induction fuel with
  | zero => intro off h; exact absurd h (Nat.not_lt_zero _)
  | succ fuel ih =>
    intro off h
    rw [walk]
    dsimp only [Paging.nextOffset]
    by_cases hz : ((Paging.new size off).page xs).length = 0
    · have hnil := List.length_eq_zero_iff.mp hz
      have hdrop : xs.drop (off.getD 0) = [] :=
        (List.take_eq_nil_iff.mp hnil).resolve_left (Nat.ne_of_gt (effSize_pos size off))
      simp [hnil, hdrop]
    · rw [if_pos hz]
      have hw : off.getD 0 < xs.length := (page_within xs _ hz).2
      obtain ⟨h1, h2, h3⟩ := ih (some ((Paging.new size off).toSkip + ((Paging.new size off).page xs).length))
        (Nat.lt_of_lt_of_le (Nat.sub_lt_sub_left hw (Nat.lt_add_of_pos_right (Nat.pos_of_ne_zero hz)))
          (Nat.le_of_lt_succ h))
      refine ⟨?_, ?_, ?_⟩
      · rw [List.flatten_cons, h1, Option.getD_some, ← List.drop_drop]
        exact List.prefix_iff_eq_append.mp (List.take_prefix _ _)
      · intro pg hpg
        rcases List.mem_cons.mp hpg with rfl | hpg
        · exact C13_page_length xs _
        · exact h2 pg hpg  -- `effSize` does not depend on the offset: by `rfl`
      · rw [List.getLast?_cons, h3]; rfl

/-- Following `next_page_token` from the first page until it is empty yields every element
    exactly once and in order, with no page longer than the effective size; the walk ends with the
    empty page whose token is empty. -/
theorem C13_walk {α} (xs : List α) (size : Nat) :
    (walk xs size (xs.length + 1) none).flatten = xs ∧
    (∀ pg ∈ walk xs size (xs.length + 1) none, pg.length ≤ (Paging.new size none).effSize) := by
  have h := walk_concat xs size (xs.length + 1) none (by simp)
  exact ⟨by simpa using h.1, h.2.1⟩

/-! non-vacuity: a walk over five elements in pages of two ends with the empty page; size −1 is
    rejected; size 5000 (capped at 1000) from offset 3 gives the rest -/
example : walk [1, 2, 3, 4, 5] 2 6 none = [[1, 2], [3, 4], [5], []] := by decide
example : parsePaging (-1) [] = none := by decide
example : (Paging.new 5000 (some 3)).page [10, 11, 12, 13, 14] = [13, 14] := by decide

/-- After any history, the topic list and the subscription list of the model are sorted by
    strictly increasing internal id (ids are handed out by counters that only grow), i.e. they are in
    creation order and sorting by id — what the server does with the HashMap's arbitrary iteration
    order — yields exactly this order. A listing is the sublist of the entries of the requested
    project (nothing of another project passes the filter), paged by `C13_walk`. -/
theorem C13_listing_is_creation_order (ops : List SysOp) (project : Bytes) :
    let sys := Sys.init.execOps ops
    ((sys.topics.filter (fun t => t.name.1 == project)).map (·.tid)).Pairwise (· < ·) ∧
    ((sys.subs.filter (fun e => e.name.1 == project)).map (·.sid)).Pairwise (· < ·) ∧
    (∀ t ∈ sys.topics.filter (fun t => t.name.1 == project), t.name.1 = project) := by
  obtain ⟨_, _, h3, h4⟩ := (SysInv_all ops).keys
  exact ⟨h3.sublist (List.filter_sublist.map _), h4.sublist (List.filter_sublist.map _),
    fun t ht => by simpa using (List.mem_filter.mp ht).2⟩

end Deltio
