import Deltio.Lemmas.Attach
import Deltio.Lemmas.SysInv
import Deltio.Props.C10
import Deltio.Props.C12
/-
  C11 — Deletion keeps topics and subscriptions consistent with each other. The system model over sequential
  histories; slice P1 for all interleavings of the create / delete calls on one subscription name with the
  deletion of its topic.
-/
namespace Deltio

/-- When DeleteSubscription returns OK the subscription is gone from the manager, from its topic's
    subscription list (so it receives nothing further: publishes fan out over that list), from the
    push registry, and every stream open on it has ended with NOT_FOUND. -/
theorem C11_sub_delete (sys : Sys) (raw : Bytes) (n : Name) (e : SubEnt) (hp : parseSubName raw = some n)
    (hf : sys.findSub n = some e) (hu : ∀ e' ∈ sys.subs, e'.name = n → e'.sid = e.sid) :
    let sys' := (sys.rpc (.deleteSub raw)).1
    (sys.rpc (.deleteSub raw)).2 = .empty ∧ sys'.findSub n = none ∧
    (∀ t ∈ sys'.topics, t.tid = e.topicId → alookup n t.subs = none) ∧
    alookup n sys'.registry = none ∧
    (∀ s ∈ sys'.streams, s.sid = e.sid → s.ended = true) := by
  refine ⟨?_, ?_, ?_, ?_, (C12_delete_ends_streams sys raw n e hp hf).1⟩ <;> simp only [Sys.rpc, hp, hf]
  · unfold Sys.findSub
    simp only
    apply List.find?_eq_none.mpr
    intro x hx
    simp only [List.mem_filter] at hx
    intro hxn
    have := hu x hx.1 (by simpa using hxn)
    simp [this] at hx
  · intro t ht htid
    simp only [List.mem_map] at ht
    obtain ⟨x, _, rfl⟩ := ht
    by_cases hc : x.tid = e.topicId
    · simp only [hc, beq_self_eq_true, ↓reduceIte]
      exact alookup_aerase n x.subs
    · have hc' : (x.tid == e.topicId) = false := by simpa using hc
      simp only [hc', Bool.false_eq_true, ↓reduceIte] at htid
      exact absurd htid hc
  · exact alookup_aerase n sys.registry

/-- Other topics' lists and all other subscriptions are untouched by DeleteSubscription. -/
theorem C11_sub_delete_frame (sys : Sys) (raw : Bytes) (n : Name) (e : SubEnt) (hp : parseSubName raw = some n)
    (hf : sys.findSub n = some e) :
    let sys' := (sys.rpc (.deleteSub raw)).1
    (∀ e' ∈ sys.subs, e'.sid ≠ e.sid → e' ∈ sys'.subs) ∧
    (∀ t ∈ sys.topics, t.tid ≠ e.topicId → t ∈ sys'.topics) ∧
    (∀ t ∈ sys.topics, ∃ t' ∈ sys'.topics, t'.tid = t.tid ∧ t'.name = t.name ∧ ∀ x ∈ t.subs, x.1 ≠ n → x ∈ t'.subs) := by
  simp only [Sys.rpc, hp, hf]
  refine ⟨?_, ?_, ?_⟩
  · intro e' he' hne
    simp only [List.mem_filter]
    exact ⟨he', by simpa using hne⟩
  · intro t ht hne
    simp only [List.mem_map]
    refine ⟨t, ht, ?_⟩
    have : (t.tid == e.topicId) = false := by simpa using hne
    simp [this]
  · intro t ht
    simp only [List.mem_map]
    by_cases hc : t.tid = e.topicId
    · refine ⟨{ t with subs := aerase n t.subs }, ⟨t, ht, by simp [hc]⟩, rfl, rfl, ?_⟩
      intro x hx hxn
      exact (mem_aerase n t.subs x).mpr ⟨hx, hxn⟩
    · have : (t.tid == e.topicId) = false := by simpa using hc
      exact ⟨t, ⟨t, ht, by simp [this]⟩, rfl, rfl, fun x hx _ => hx⟩

/-- After DeleteTopic the topic's subscriptions still exist with their state (backlog, leases)
    untouched — `C01_all_requeued` / `C01_drain` keep applying — and report `_deleted_topic_`. -/
theorem C11_topic_delete (sys : Sys) (raw : Bytes) (n : Name) (t : TopicEnt) (hp : parseTopicName raw = some n)
    (hf : sys.findTopic n = some t) :
    let sys' := (sys.rpc (.deleteTopic raw)).1
    sys'.subs = sys.subs ∧ sys'.registry = sys.registry ∧
    (∀ e ∈ sys'.subs, e.topicId = t.tid → (sys'.subRes e).topic = deletedTopicStr) := by
  simp only [Sys.rpc, hp, hf]
  refine ⟨trivial, trivial, ?_⟩
  intro e _ he
  rw [subRes_eq]
  simp only [SpecSub.res, specOf, refOf_filter_ne, he, beq_self_eq_true, if_true]

/-- A topic created again under the same name is a new topic: fresh internal id (larger than any
    existing or earlier one) and an empty subscription list — old subscriptions, which refer to
    the old internal id, are not re-attached and keep reporting `_deleted_topic_`. -/
theorem C11_no_reattach (sys : Sys) (raw : Bytes) (n : Name) (hp : parseTopicName raw = some n) (hf : sys.findTopic n = none)
    (hinv : ∀ e ∈ sys.subs, e.topicId ≤ sys.nextTopic) :
    let sys' := (sys.rpc (.createTopic raw)).1
    (∃ t ∈ sys'.topics, t.name = n ∧ t.tid = sys.nextTopic + 1 ∧ t.subs = []) ∧
    (∀ e ∈ sys'.subs, e.topicId ≠ sys.nextTopic + 1) ∧ sys'.subs = sys.subs := by
  simp only [Sys.rpc, hp, hf]
  refine ⟨⟨_, List.mem_append_right _ (List.mem_singleton.mpr rfl), rfl, rfl, rfl⟩, ?_, trivial⟩
  intro e he
  have := hinv e he
  omega

/-! non-vacuity: a subscription outlives its topic and reports `_deleted_topic_`; the topic created
    again under the same name lists nothing, and the subscription keeps reporting `_deleted_topic_` -/
example :
    let T := displayTopic ([112], [116]); let S := displaySub ([112], [115])
    let s1 := (Sys.init.rpc (.createTopic T)).1
    let s2 := (s1.rpc (.createSub S T 0 none)).1
    let s3 := (s2.rpc (.deleteTopic T)).1
    let s4 := (s3.rpc (.createTopic T)).1
    (s2.rpc (.listTopicSubs T 0 [])).2 = .names [S] (encodeToken 1) ∧
    (s3.rpc (.getSub S)).2 = .sub { name := S, topic := deletedTopicStr, ackSecs := 10, push := none } ∧
    (s4.rpc (.listTopicSubs T 0 [])).2 = .names [] [] ∧
    (s4.rpc (.getSub S)).2 = .sub { name := S, topic := deletedTopicStr, ackSecs := 10, push := none } :=
  ⟨rfl, rfl, rfl, rfl⟩

/-- At every moment of every sequential history: the subscription list of every live topic is
    exactly the live subscriptions created on it (same internal topic id), in creation order —
    whatever creations, deletions, re-creations under old names, publishes and pulls came before. -/
theorem C11_list_eq (ops : List SysOp) :
    ∀ t ∈ (Sys.init.execOps ops).topics,
      t.subs = ((Sys.init.execOps ops).subs.filter (fun e => e.topicId == t.tid)).map (fun e => (e.name, e.sid)) :=
  fun _ ht => (SysInv_all ops).attached ht

/-- What ListTopicSubscriptions answers (one page, size ≥ the number of subscriptions) is exactly the
    canonical names of the live subscriptions created on the topic, in creation order. -/
theorem C11_list_response (ops : List SysOp) (raw : Bytes) (n : Name) (t : TopicEnt) (hp : parseTopicName raw = some n)
    (hf : (Sys.init.execOps ops).findTopic n = some t) (p : Paging) (hpg : parsePaging 1000 [] = some p) :
    ∃ next, ((Sys.init.execOps ops).rpc (.listTopicSubs raw 1000 [])).2 =
      .names (p.page ((((Sys.init.execOps ops).subs.filter (fun e => e.topicId == t.tid)).map (fun e => displaySub e.name)))) next := by
  have hb : bytesToNats [] = [] := rfl
  simp only [Sys.rpc, hp, hf, hb, hpg, Sys.listPage]
  rw [C11_list_eq ops t (List.mem_of_find?_eq_some hf)]
  simp only [List.map_map]
  exact ⟨_, rfl⟩

section P1slice
open P1

/-- Before the fix (7f785e8) `Subscription::delete` did not wait for `attach_finished`: a
    DeleteSubscription overtakes the attach of the subscription it deletes, the topic actor handles the
    detach first and the attach after it, and the attach inserts what the manager has already dropped —
    quiescent, on a live topic: a subscription that receives every publish and that no request can name. -/
theorem C11_pinned_ghost :
    ∃ s, run (init false) [.create, .deleteStart, .actorDelete 0, .helperSend 0, .attachSend 0, .topicTake,
                           .helperFinish 0, .topicTake, .attachFinish 0] = some s ∧
      s.topic = some 0 ∧ s.mgr = none ∧ s.tdead = false ∧ Quiescent s := by
  refine ⟨_, rfl, rfl, rfl, rfl, rfl, rfl, ?_⟩
  intro g
  by_cases hg : g = 0
  · subst hg; simp [upd, init]
  · simp [upd, init, hg]

/-- No ghost, at any moment, on a live topic: whatever the topic lists under the name is the registered subscription. -/
theorem C11_no_ghost (s : State) (hr : Reachable (init true) s) (hlive : s.tdead = false) (g : Nat) (ht : s.topic = some g) :
    s.mgr = some g := by
  have h := inv_reachable s hr
  cases hm : s.mgr with
  | none => exact nomatch ((h.empty hm).2 hlive).symm.trans ht
  | some c =>
    obtain ⟨_, t, hrow, htop⟩ := h.cur c hm
    rw [hrow.listed ((htop hlive).symm.trans ht)]

/-- At rest (no task with a step left, no Delete in flight) on a live topic, the topic actor's entry
    under the name is the manager's: the same subscription in both maps, or none in either. -/
theorem C11_quiescent_exact (s : State) (hr : Reachable (init true) s) (hlive : s.tdead = false) (hq : Quiescent s) :
    s.topic = s.mgr := by
  have h := inv_reachable s hr
  obtain ⟨hmb, _, hg⟩ := hq
  cases hm : s.mgr with
  | none => exact (h.empty hm).2 hlive
  | some c =>
    obtain ⟨_, t, hrow, htop⟩ := h.cur c hm
    obtain ⟨ha, hh⟩ := hg c
    rw [htop hlive]
    rcases (hmb ▸ hrow).enabled with e | e | e | e | e
    · exact e.2.2
    all_goals simp [e] at ha hh

/-- Never stuck: while anything is left to do, some step OF THE PROTOCOL ITSELF (not a new request,
    not a topic deletion) is enabled; in particular a Delete that waits for `attach_finished` is
    never left waiting. -/
theorem C11_progress (s : State) (hr : Reachable (init true) s) (hq : ¬ Quiescent s) :
    ∃ l, l.internal = true ∧ ∃ s', step s l = some s' := by
  have h := inv_reachable s hr
  cases hmb : s.mbT with
  | cons m rest =>
    refine ⟨.topicTake, rfl, ?_⟩
    dsimp only [step]
    rw [hmb]
    cases m <;> exact ⟨_, rfl⟩
  | nil =>
    -- the registered generation, unless at rest, has a task that can move
    have cur_work : ∀ g, s.mgr = some g → ¬((s.gen g).att = .finished ∧ (s.gen g).helper = .none) →
        ∃ l, l.internal = true ∧ ∃ s', step s l = some s' := by
      intro g hm hw
      obtain ⟨_, t, hrow, _⟩ := h.cur g hm
      rcases (hmb ▸ hrow).enabled with e | e | e | e | e
      · exact absurd ⟨e.1, e.2.1⟩ hw
      · exact ⟨.attachSend g, rfl, _, if_pos e⟩
      · exact ⟨.attachFinish g, rfl, _, if_pos e⟩
      · exact ⟨.helperSend g, rfl, _, if_pos e⟩
      · exact ⟨.helperFinish g, rfl, _, if_pos e⟩
    cases hd : s.dels with
    | cons g rest =>
      -- a pending Delete is accepted, or waits for an attach that can move
      by_cases ha : (s.gen g).att = .finished
      · refine ⟨.actorDelete 0, rfl, ?_⟩
        have hw : ¬(s.repaired ∧ (s.gen g).att ≠ .finished) := fun hc => hc.2 ha
        dsimp only [step]
        rw [hd]
        exact ⟨_, (if_neg hw).trans (apply_ite some ..).symm⟩
      · by_cases hm : s.mgr = some g
        · exact cur_work g hm (fun hc => ha hc.1)
        · exact absurd (by rw [h.old g (h.dl g (hd ▸ List.mem_cons_self)) hm]; rfl) ha
    | nil =>
      -- some generation is not at rest: it is neither unborn nor done, so it is the registered one
      obtain ⟨g, hg⟩ := Classical.not_forall.mp fun hall => hq ⟨hmb, hd, hall⟩
      have hm := active_is_cur h (fun e => hg (by rw [e]; exact ⟨Or.inl rfl, Or.inl rfl⟩))
        (fun e => hg (by rw [e]; exact ⟨Or.inr rfl, Or.inr rfl⟩))
      exact cur_work g hm (fun hc => hg ⟨Or.inr hc.1, Or.inl hc.2⟩)

/-! non-vacuity: deleting the topic deletes no subscription, and a subscription created afterwards on
    another, live topic is attached there like any other -/
example : ∃ s, run (init true) [.create, .attachSend 0, .topicTake, .attachFinish 0, .topicDie, .deleteStart, .actorDeleteDirect 0,
                                 .create, .retarget 1, .attachSend 1, .topicTake, .attachFinish 1] = some s ∧
    s.topic = some 1 ∧ s.mgr = some 1 ∧ s.tdead = false := ⟨_, rfl, rfl, rfl, rfl⟩

/-! non-vacuity: a Delete issued before the attach has finished waits for it; the name is then created again -/
example : ∃ s, run (init true) [.create, .deleteStart, .attachSend 0, .topicTake, .attachFinish 0, .actorDelete 0,
                                 .helperSend 0, .topicTake, .helperFinish 0, .create, .attachSend 1, .topicTake, .attachFinish 1] = some s ∧
    s.topic = some 1 ∧ s.mgr = some 1 := ⟨_, rfl, rfl, rfl⟩

/-! the first three steps of `C11_pinned_ghost` are not a run of the repaired protocol -/
example : run (init true) [.create, .deleteStart, .actorDelete 0] = none := rfl

end P1slice

/-- In every state satisfying the global invariant and for EVERY next request (CreateTopic of the
    same name included): a subscription whose topic has been deleted keeps reporting
    `_deleted_topic_` for as long as it exists. (`Sys.abs` is the abstraction of `C10_refines_map`; a
    reference of `none` is what `GetSubscription` / `ListSubscriptions` render as `_deleted_topic_`.) -/
theorem C11_deleted_topic_is_forever (sys : Sys) (h : SysInv sys) (r : Req) (k : Name) (e : SpecSub)
    (hk : alookup k sys.abs.subs = some e) (hn : e.topic = none) :
    alookup k (sys.rpc r).1.abs.subs = none ∨ ∃ e', alookup k (sys.rpc r).1.abs.subs = some e' ∧ e'.topic = none := by
  rw [(C10_refines_map sys h r).1]
  exact (sys.abs.apply_edit r).deleted_topic_is_forever hk hn

/-- A reference of `none` in `Sys.abs` is exactly what GetSubscription reports as `_deleted_topic_`. -/
theorem C11_deleted_topic_reported (sys : Sys) (raw : Bytes) (n : Name) (e : SpecSub) (hp : parseSubName raw = some n)
    (hk : alookup n sys.abs.subs = some e) (hn : e.topic = none) :
    ∃ res, (sys.rpc (.getSub raw)).2 = .sub res ∧ res.topic = deletedTopicStr := by
  rw [findSub_abs] at hk
  cases hf : sys.findSub n with
  | none => rw [hf] at hk; cases hk
  | some ent =>
    rw [hf] at hk
    simp only [Option.map_some, Option.some.injEq] at hk
    refine ⟨sys.subRes ent, by simp [Sys.rpc, hp, hf], ?_⟩
    rw [subRes_eq, hk]
    simp [SpecSub.res, hn]

end Deltio
