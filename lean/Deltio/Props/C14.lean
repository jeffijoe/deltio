import Deltio.Lemmas.SysInv
import Deltio.Lemmas.SysFrame
import Deltio.Props.C05
import Deltio.Props.C02
import Deltio.Lemmas.Base64
/-
  C14 — Push subscriptions deliver at least once until the endpoint accepts. The push loop's only access to a
  subscription's messages is a `pull 1000` turn, then per message one turn depending on the endpoint's behaviour:
  every fault sequence is a sequence of these turns, so the turn theorems of C01–C05 apply.
-/
namespace Deltio

/-- Accepted statuses: exactly 102, 200, 201, 202, 204. -/
theorem C14_statuses (c : Nat) : pushAccepts c = true ↔ (c = 102 ∨ c = 200 ∨ c = 201 ∨ c = 202 ∨ c = 204) := by
  simp [pushAccepts, or_assoc]

/-- A round hands to the endpoint the first `min 1000 |backlog|` queued messages, whatever the
    backlog size (the 16-bit conversion of the length cannot lower the limit below 1000). -/
theorem C14_round (n : Nat) : pullCount 1000 n = min n 1000 := by
  unfold pullCount pullCapacity
  rw [Nat.min_eq_left (Nat.le_max_right _ 1000)]
  rfl

/-- Failure (any other status, connection error): the dispatcher nacks — the message is back in
    the queue in that very turn, a consumer (the next round) is notified, nothing else changes. -/
theorem C14_failure_requeues {s : SubState} (h : SubInv s) (hdel : s.deleted = false) (d : Deliv) (hd : d ∈ s.out.msgs)
    (o : Outcome) (ho : o = .connError ∨ ∃ c, o = .status c ∧ pushAccepts c = false) :
    ∃ t, dispatchTurn d.ack o = some t ∧ (s.turn t).1.backlog = s.backlog ++ [d.msg] ∧
      (∀ x ∈ (s.turn t).1.out.msgs, x.ack ≠ d.ack) ∧ (s.turn t).2.notified = true := by
  have hn := C05_nack h hdel d hd
  rcases ho with rfl | ⟨c, rfl, hc⟩
  · exact ⟨_, rfl, hn.1, hn.2.1, hn.2.2.2.1⟩
  · refine ⟨.modify [(d.ack, none)], by simp [dispatchTurn, hc], hn.1, hn.2.1, hn.2.2.2.1⟩

/-- Acceptance within the deadline (the lease is still there): the dispatcher acks and the message
    is never POSTed — never delivered by any turn — again (`C02_final`). -/
theorem C14_never_again {s : SubState} (h : SubInv s) (hdel : s.deleted = false) (d : Deliv) (hd : d ∈ s.out.msgs) (c : Nat)
    (hc : pushAccepts c = true) (ts : List SubTurn) (hn : NoDelete ts)
    (hfresh : ((held s ++ postedIn ts).map (·.id)).Nodup) :
    dispatchTurn d.ack (.status c) = some (.ack [d.ack]) ∧
    ∀ p u rest, ts = p ++ u :: rest →
      ∀ x ∈ ((((s.turn (.ack [d.ack])).1).exec p).turn u).2.delivered, x.msg.id ≠ d.msg.id := by
  refine ⟨by simp [dispatchTurn, hc], ?_⟩
  intro p u rest hts
  exact (C02_final h hdel [d.ack] d hd (by simp) ts hn hfresh p u rest hts).2

/-- No answer: nothing is issued; the delivery stays leased until its deadline and is then
    re-queued by the expiry turn (`C04_at_deadline`), so a later round POSTs it again. An accepted
    answer arriving after that acks a stale ack id: no effect (`C02_noop`), the message stays. -/
theorem C14_pending_then_late_accept {s : SubState} (h : SubInv s) (d : Deliv) (hd : d ∈ s.out.msgs) (now : Nat) (hdl : d.deadline ≤ now) :
    dispatchTurn d.ack .pending = none ∧
    d.msg ∈ (s.turn (.expire now)).1.backlog ∧
    ((s.turn (.expire now)).1.turn (.ack [d.ack])).1 = (s.turn (.expire now)).1 := by
  have ha := at_deadline h d hd now hdl
  exact ⟨rfl, ha.1, C02_noop _ _ fun a ha' => List.mem_singleton.mp ha' ▸ ha.2.2.1⟩

/-- The push registry is only ever changed by CreateSubscription (adds the endpoint of a push
    subscription under its name) and DeleteSubscription (removes that name): every other request,
    time advance and stream operation leaves it alone. -/
theorem C14_registry_frame (sys : Sys) (r : Req)
    (hr : (∀ n t a p, r ≠ .createSub n t a p) ∧ (∀ n, r ≠ .deleteSub n)) :
    (sys.rpc r).1.registry = sys.registry := by
  obtain ⟨mid, hc, hd⟩ := apply_factor sys (.rpc r)
  rw [show (sys.rpc r).1.registry = mid.registry from skel_registry hd.skel]
  cases hc with
  | none | createTopic | deleteTopic | publish | streams => rfl
  | createSub => exact absurd rfl (hr.1 _ _ _ _)
  | deleteSub => exact absurd rfl (hr.2 _)

/-- CreateSubscription registers exactly the configured (trimmed) endpoint, only for a push
    subscription; DeleteSubscription unregisters it, so rounds stop dispatching for it. -/
theorem C14_registry_create_delete (sys : Sys) (rawN rawT : Bytes) (ack : Int) (sn tn : Name) (t : TopicEnt)
    (hpn : parseSubName rawN = some sn) (hpt : parseTopicName rawT = some tn) (hf : sys.findTopic tn = some t)
    (hproj : t.name.1 = sn.1) (hfs : sys.findSub sn = none) (hreg : alookup sn sys.registry = none) (p pc : PushCfg)
    (hp : parsePushCfg p = some pc) :
    (sys.rpc (.createSub rawN rawT ack (some p))).1.registry = sys.registry ++ [(sn, pc)] ∧
    (sys.rpc (.createSub rawN rawT ack none)).1.registry = sys.registry := by
  have : (t.name.1 != sn.1) = false := by simp [hproj]
  constructor
  · simp [Sys.rpc, hpn, hpt, hf, hfs, this, hp, hreg]
  · simp [Sys.rpc, hpn, hpt, hf, hfs, this]

/-- The data field of the push body decodes to exactly the published bytes. -/
theorem C14_payload_data (bs : List Nat) (h : ∀ b ∈ bs, b < 256) : b64Decode (b64Encode bs) = some bs :=
  b64_decode_encode bs h

/-! non-vacuity: 204 is accepted, 203 and 500 are not; the nack after a failed POST puts message 7 back
    in the queue -/
example : pushAccepts 204 = true ∧ pushAccepts 203 = false ∧ pushAccepts 500 = false := by decide
example :
    let s := (SubState.init 10000000).exec [.post [⟨7, [], [], 0⟩], .pull 1000 0]
    ((s.turn (.modify [(1, none)])).1.backlog.map (·.id) = [7]) := by decide

/-- Over all histories: the push registry is exactly the live subscriptions that have a push
    configuration, with the endpoint they were created with — so a push round dispatches for every
    push subscription, for no other, and for none that was deleted. -/
theorem C14_registry (ops : List SysOp) :
    (Sys.init.execOps ops).registry =
      (Sys.init.execOps ops).subs.filterMap (fun e => e.push.map (fun c => (e.name, c))) := by
  have := (SysInv_all ops).registry
  rwa [registryOf, Sys.ssh, List.filterMap_map] at this

/-- One event in the life of a push subscription: a Publish on its topic, a push round (the
    `pull 1000` turn — every delivery it returns is POSTed), the endpoint's behaviour for the POST
    of ack id `a` reaching the dispatcher (any status, a connection error, or nothing at all), and the
    expiry timer. Any list of these is a history; the outcomes are arbitrary (fault sequences), and so
    is the order in which answers arrive. -/
inductive PushEv where
  | post (ms : List Msg)
  | round (now : Nat)
  | answer (a : Nat) (o : Outcome)
  | tick (now : Nat)
deriving Repr

/-- The subscription-actor turn an event causes (an unanswered POST causes none). -/
def PushEv.turn : PushEv → Option SubTurn
  | .post ms => some (.post ms)
  | .round now => some (.pull 1000 now)
  | .answer a o => dispatchTurn a o
  | .tick now => some (.expire now)

def pushTurns (evs : List PushEv) : List SubTurn := evs.filterMap PushEv.turn

theorem pushTurns_cons (e : PushEv) (es : List PushEv) :
    pushTurns (e :: es) = (match e.turn with | some t => [t] | none => []) ++ pushTurns es := by
  unfold pushTurns
  simp only [List.filterMap_cons]
  cases e.turn <;> rfl

theorem PushEv.turn_eq_some {e : PushEv} {t : SubTurn} (h : e.turn = some t) :
    (∃ a c, e = .answer a (.status c) ∧ pushAccepts c = true ∧ t = .ack [a]) ∨ (∃ ms, t = .post ms) ∨
    (∃ now, t = .pull 1000 now) ∨ (∃ now, t = .expire now) ∨ (∃ a, t = .modify [(a, none)]) := by
  cases e with
  | post ms => cases h; exact .inr (.inl ⟨ms, rfl⟩)
  | round now => cases h; exact .inr (.inr (.inl ⟨now, rfl⟩))
  | tick now => cases h; exact .inr (.inr (.inr (.inl ⟨now, rfl⟩)))
  | answer a o =>
    cases o with
    | pending => cases h
    | connError => cases h; exact .inr (.inr (.inr (.inr ⟨a, rfl⟩)))
    | status c =>
      simp only [PushEv.turn, dispatchTurn] at h
      split at h <;> cases h
      · exact .inl ⟨a, c, rfl, ‹_›, rfl⟩
      · exact .inr (.inr (.inr (.inr ⟨a, rfl⟩)))

theorem pushTurns_noDelete (evs : List PushEv) : NoDelete (pushTurns evs) := by
  intro t ht
  obtain ⟨e, _, he⟩ := List.mem_filterMap.mp ht
  rcases PushEv.turn_eq_some he with ⟨_, _, _, _, rfl⟩ | ⟨_, rfl⟩ | ⟨_, rfl⟩ | ⟨_, rfl⟩ | ⟨_, rfl⟩ <;> exact ⟨nofun, nofun⟩

/-- Whatever was acknowledged in a push history was acknowledged by an ACCEPTED answer that arrived
    while that delivery was still outstanding. -/
theorem acked_by_accepted_answer : ∀ (evs : List PushEv) (s : SubState) (m : Msg), m ∈ ackedIn s (pushTurns evs) →
    ∃ p a c rest, evs = p ++ PushEv.answer a (.status c) :: rest ∧ pushAccepts c = true ∧
      ∃ d ∈ (s.exec (pushTurns p)).out.msgs, d.ack = a ∧ d.msg = m := by
  intro evs
  induction evs with
  | nil => intro s m h; cases h
  | cons e es ih =>
    intro s m h
    rw [pushTurns_cons] at h
    cases ht : e.turn with
    | none =>
      rw [ht] at h
      obtain ⟨p, a, c, rest, he, hc, d, hd, hda, hdm⟩ := ih s m h
      refine ⟨e :: p, a, c, rest, by rw [he]; rfl, hc, d, ?_, hda, hdm⟩
      rw [pushTurns_cons, ht]; exact hd
    | some t =>
      rw [ht] at h
      rcases List.mem_append.mp h with h | h
      · -- acknowledged by this very event: only an ack turn acknowledges, so it is an accepted answer
        rcases PushEv.turn_eq_some ht with ⟨a, c, rfl, hc, rfl⟩ | ⟨_, rfl⟩ | ⟨_, rfl⟩ | ⟨_, rfl⟩ | ⟨_, rfl⟩
        · simp only [ackedBy] at h
          split at h
          · cases h
          · obtain ⟨d, hd, hdm⟩ := List.mem_map.mp h
            obtain ⟨hd1, hd2⟩ := mem_remove_removed [a] s.out d hd
            exact ⟨[], a, c, es, rfl, hc, d, hd1, List.mem_singleton.mp hd2, hdm⟩
        all_goals cases h
      · obtain ⟨p, a, c, rest, he, hc, d, hd, hda, hdm⟩ := ih (s.turn t).1 m h
        refine ⟨e :: p, a, c, rest, by rw [he]; rfl, hc, d, ?_, hda, hdm⟩
        rw [pushTurns_cons, ht]; exact hd

/-- **At least once until the endpoint accepts — for every fault sequence.** After ANY history of
    publishes, push rounds, endpoint behaviours (each accepted status, any other status, connection
    errors, answers that never come or come late, in any order) and timer ticks, every message that was
    posted to the push subscription is either still held by it — queued, or leased and re-queued at its
    deadline (`C04_at_deadline`), so that a later round POSTs it again (`C14_round`, `C01_drain`) — or an
    answer with status 102, 200, 201, 202 or 204 arrived for a delivery of it while that delivery was
    still outstanding. Nothing else ever removes a message. -/
theorem C14_until_accepted (ackDl : Nat) (evs : List PushEv) (m : Msg) (hm : m ∈ postedIn (pushTurns evs)) :
    m ∈ held ((SubState.init ackDl).exec (pushTurns evs)) ∨
    ∃ p a c rest, evs = p ++ PushEv.answer a (.status c) :: rest ∧ pushAccepts c = true ∧
      ∃ d ∈ ((SubState.init ackDl).exec (pushTurns p)).out.msgs, d.ack = a ∧ d.msg = m := by
  have hc := exec_conserve (SubInv_init ackDl) rfl (pushTurns evs) (pushTurns_noDelete evs)
  exact (List.mem_append.mp (hc.mem_iff.mpr (List.mem_append_right _ hm))).imp_right (acked_by_accepted_answer evs _ m)

/-! non-vacuity: rejected, then unanswered past the deadline, then accepted — held until the last step -/
example :
    let m : Msg := { id := 7, data := [1], attrs := [], pubTime := 0 }
    let evs1 : List PushEv := [.post [m], .round 0, .answer 1 (.status 500), .round 5, .tick 10100000, .round 10100000]
    let evs2 := evs1 ++ [.answer 3 (.status 204)]
    m ∈ held ((SubState.init 10000000).exec (pushTurns evs1)) ∧
    held ((SubState.init 10000000).exec (pushTurns evs2)) = [] := by decide

end Deltio
