import Deltio.Proto.Cancel
import Deltio.Lemmas.SubTurn
/-
  C16 — Abandoned requests have all-or-nothing effect.
  Slice P4: CreateSubscription with a cancel label at every await of
  the caller's future, the topic mailbox filling and draining arbitrarily.
-/
namespace Deltio
open P4

/-- Before the fix (9b215df): abandoning CreateSubscription while its attach message waits for
    room in the topic mailbox leaves the subscription registered but never attached — quiescent,
    for ever. -/
theorem C16_pinned_orphan :
    run (P4.init false) [.start, .fill, .cancel, .drain] =
      some { repaired := false, inMgr := true, attached := false, attachQueued := false, handler := .cancelled, task := .idle, full := false } ∧
    Quiescent { repaired := false, inMgr := true, attached := false, attachQueued := false, handler := .cancelled, task := .idle, full := false } := by
  refine ⟨by decide, ?_⟩
  unfold Quiescent; decide

/-- The invariant of the repaired CreateSubscription. Its core is `k1` (K1 of DESIGN.md Appendix C): a registered
    subscription is attached, or its attach message is queued, or a task that cannot be cancelled is about to send it. -/
structure CancelInv (s : State) : Prop where
  rep : s.repaired = true
  /-- the forward half of `C16_all_or_nothing`. The third disjunct is the spawned task's program counter, which
      `cancel` does not write; in the pinned protocol it is the caller's, and `cancel` breaks it (`C16_pinned_orphan`) -/
  k1 : s.inMgr = true → s.attached = true ∨ s.attachQueued = true ∨ s.task = .needSend
  /-- the backward half: `start` sets `inMgr`, nothing clears it, and before `start` no other label of the request
      is enabled -/
  none : s.inMgr = false → s.attached = false ∧ s.attachQueued = false ∧ s.task = .idle ∧ s.handler = .idle
  /-- `handlerSend` is a label of the pinned caller only -/
  hnever : s.handler ≠ .needSend
  /-- for `C16_progress`: an awaiting task has its message in the mailbox, so `topicTake` is enabled -/
  wait : s.task = .awaitReply → s.attachQueued = true
  /-- for `C16_progress`: the caller waits only while the task still has a step to take -/
  hwait : s.handler = .awaitReply → s.task = .needSend ∨ s.task = .awaitReply

theorem C16_inv_init : CancelInv (P4.init true) := by constructor <;> simp [P4.init]

theorem C16_inv_step {s s' : State} (h : CancelInv s) (l : Label) (hs : step s l = some s') : CancelInv s' := by
  obtain ⟨h1, h2, h3, h4, h5, h6⟩ := h
  cases l <;> simp only [step, h1, ↓reduceIte, Option.ite_none_left_eq_some, Option.ite_none_right_eq_some,
    Option.some.injEq] at hs
  case fill | drain => subst hs; exact ⟨rfl, h2, h3, h4, h5, h6⟩
  -- the repaired caller never sends: its task does
  case handlerSend => exact absurd hs.1.1 h4
  -- `start` sets `task := needSend` with `inMgr` (third disjunct of `k1`, `hwait`); `taskSend` sets `attachQueued` as
  -- the task goes to `awaitReply` (second disjunct, `wait`); `topicTake` sets `attached` and, clearing `attachQueued`,
  -- moves task and caller out of `awaitReply` (first disjunct, `wait`, `hwait`); `cancel` writes only `handler`, which
  -- `k1` and `wait` do not read. Per clause: `assumption` if the label writes none of its variables, else `simp` with
  -- the label's guard; for `none`, the guard fails before `start` (`h3`).
  all_goals obtain ⟨hg, rfl⟩ := hs <;> (repeat' split) <;> constructor <;>
    first | assumption | (simp +contextual [*]; done) | (intro hm; simp [h3 hm] at hg)

theorem C16_inv_reachable (s : State) (hr : Reachable (P4.init true) s) : CancelInv s := by
  induction hr with
  | refl => exact C16_inv_init
  | step _ hs ih => exact C16_inv_step ih _ hs

/-- All or nothing: with the attach in a task of its own, in every reachable quiescent state —
    whatever the caller did, wherever it was cancelled, however the mailbox filled and drained —
    the subscription is registered iff it is attached: the state of "never received" or of
    "completed", nothing in between. In particular every subscription that exists is attached. -/
theorem C16_all_or_nothing (s : State) (hr : Reachable (P4.init true) s) (hq : Quiescent s) :
    (s.inMgr = true ↔ s.attached = true) := by
  have h := C16_inv_reachable s hr
  obtain ⟨hq1, _, _, hq4, _⟩ := hq
  constructor
  · intro hm
    rcases h.k1 hm with h1 | h1 | h1
    · exact h1
    · rw [hq1] at h1; cases h1
    · exact absurd h1 hq4
  · intro ha
    cases hm : s.inMgr with
    | true => rfl
    | false => have := (h.none hm).1; rw [ha] at this; cases this

/-- Not stuck: the pending attach is sent as soon as the mailbox has room and taken by the topic
    actor's next turn (progress of the mailbox itself is `C07_progress`). -/
theorem C16_progress (s : State) (h : CancelInv s) (hq : ¬ Quiescent s) (hroom : s.full = false) :
    ∃ l, l ≠ Label.cancel ∧ l ≠ Label.fill ∧ l ≠ Label.drain ∧ (step s l).isSome = true := by
  by_cases h1 : s.attachQueued = true
  · exact ⟨.topicTake, by simp, by simp, by simp, by simp [step, h1]⟩
  by_cases h2 : s.task = .needSend
  · exact ⟨.taskSend, by simp, by simp, by simp, by simp [step, h2, hroom]⟩
  -- otherwise the task is not waiting either, and the caller only waits while the task sends or waits
  have hw : s.task ≠ .awaitReply := fun hc => h1 (h.wait hc)
  exact absurd ⟨by simpa using h1, h.hnever, fun hc => (h.hwait hc).elim h2 hw, h2, hw⟩ hq

/-- Every other handler has exactly one effectful step — the enqueue of its single mailbox
    message; the actor's turn then runs whether or not the caller still waits. For a Pull this
    means: messages handed to an abandoned consumer are outstanding like any others, with their
    deadline, and are redelivered after it (C04). -/
theorem C16_abandoned_pull {s : SubState} (h : SubInv s) (hd : s.deleted = false) (max16 now : Nat) :
    ∀ d ∈ (s.turn (.pull max16 now)).2.delivered,
      d ∈ (s.turn (.pull max16 now)).1.out.msgs ∧ d.deadline = roundDeadline (now + s.ackDl) := by
  intro d hdm
  exact ⟨(pull_out h hd max16 now).2 ▸ List.mem_append_right _ hdm, pull_deadline s max16 now d hdm⟩

end Deltio
