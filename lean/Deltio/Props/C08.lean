import Deltio.Lemmas.SubTurn
import Deltio.Lemmas.Order
import Deltio.Props.C09
import Deltio.Lemmas.Fanout
/-
  C08 — Publish order is delivery order; message ids are issued in order. One subscription actor over all its turn
  sequences (first deliveries, by a ghost-instrumented run); slice P6 for the order in which concurrent publishes
  reach a subscription.
-/
namespace Deltio

/-- One id per submitted message, the k-th id for the k-th message, strictly increasing within
    the request and all above every id the topic issued before (counter `base`). -/
theorem C08_ids (tid base pt : Nat) (ms : List (Bytes × List (Bytes × Bytes))) :
    ((mkMsgs tid base pt ms 0).map (·.id)).length = ms.length ∧
    ((mkMsgs tid base pt ms 0).map (·.id)).Pairwise (· < ·) ∧
    (∀ i ∈ (mkMsgs tid base pt ms 0).map (·.id), mkId tid base < i ∧ i ≤ mkId tid (base + ms.length)) := by
  have h := (C09_publish_ids tid base pt ms 0).1
  rw [h]
  refine ⟨by simp, ?_, ?_⟩
  · rw [List.pairwise_map]
    have : (List.range ms.length).Pairwise (· < ·) := List.pairwise_lt_range
    exact this.imp (fun {a b} hab => by unfold mkId; omega)
  · intro i hi
    simp only [List.mem_map, List.mem_range] at hi
    obtain ⟨k, hk, rfl⟩ := hi
    unfold mkId; omega

/-- The topic's counter advances by the number of messages: ids of successive publishes of one
    topic increase strictly in the order in which the topic actor handled them. -/
theorem C08_publish_advances (sys : Sys) (raw : Bytes) (msgs : List (Bytes × List (Bytes × Bytes))) (n : Name) (t : TopicEnt)
    (hn : parseTopicName raw = some n) (ht : sys.findTopic n = some t) :
    (sys.rpc (.publish raw msgs)).2 = .ids ((mkMsgs t.tid t.nextMsg sys.pubSeq msgs 0).map (·.id)) := by
  simp [Sys.rpc, hn, ht]

/-- FIFO queue discipline of the subscription: a pull turn delivers exactly the first `n` messages
    of the backlog, in backlog order, and leaves the rest in order; a post appends at the back.
    Hence messages that have never been delivered leave in the order they were posted, and the
    messages of one publish (posted by one turn) stay contiguous. -/
theorem C08_fifo (s : SubState) (max16 now : Nat) (hd : s.deleted = false) :
    let r := s.turn (.pull max16 now)
    r.2.delivered.map (·.msg) ++ r.1.backlog = s.backlog :=
  pull_fifo s max16 now hd

/-- The other half of the queue discipline of `C08_fifo`: a post turn puts its batch, in order, at the
    back of the backlog — behind everything queued, never in between. -/
theorem C08_post_appends (s : SubState) (ms : List Msg) (hd : s.deleted = false) :
    (s.turn (.post ms)).1.backlog = s.backlog ++ ms := by
  simp [SubState.turn, hd]

/-- Re-queued messages (nack, expiry) go to the back: they never overtake a queued message. -/
theorem C08_requeue_at_back {s : SubState} (t : SubTurn) (hne : ∀ mx now, t ≠ .pull mx now) (hde : t ≠ .deleteEnd) :
    s.backlog <+: (s.turn t).1.backlog := by
  cases t with
  | post ms => simp only [SubState.turn]; split <;> simp
  | pull mx now => exact absurd rfl (hne mx now)
  | ack ids => simp only [SubState.turn]; split <;> simp
  | modify mods => simp only [SubState.turn]; split <;> simp
  | expire now =>
    simp only [SubState.turn]
    split
    · simp
    · split <;> simp
  | deleteBegin => simp [SubState.turn]
  | deleteEnd => exact absurd rfl hde
  | getStats => simp [SubState.turn]
  | getInfo => simp [SubState.turn]

/-- Ghost bookkeeping along a run: `D` the ids delivered so far, `F` the sequence of FIRST deliveries
    (ids that no earlier turn had delivered), `hi` the largest id posted so far. -/
structure Ghost where
  D : List Nat
  F : List Nat
  hi : Nat

def ghostStep (s : SubState) (g : Ghost) : SubTurn → Ghost
  | .post ms => { g with hi := (ms.map (·.id)).foldl max g.hi }
  | .pull mx now =>
    let taken := (s.turn (.pull mx now)).2.delivered.map (·.msg.id)
    { g with D := g.D ++ taken, F := g.F ++ taken.filter (fun i => !g.D.contains i) }
  | _ => g

def ghostRun (s : SubState) (g : Ghost) : List SubTurn → SubState × Ghost
  | [] => (s, g)
  | t :: ts => ghostRun (s.turn t).1 (ghostStep s g t) ts

def Incr (l : List Nat) : Prop := l.Pairwise (· < ·)

/-- Posts arrive in publish order: ids increase inside a post and from post to post (this is what
    the topic actor guarantees: `C08_ids`, one publish turn at a time, and what the turn-trace
    validation checks on every concurrent run: "posts in id order"). -/
def PostsInOrder (s : SubState) (g : Ghost) : List SubTurn → Prop
  | [] => True
  | t :: ts =>
    (match t with
      | .post ms => Incr (ms.map (·.id)) ∧ ∀ m ∈ ms, g.hi < m.id
      | _ => True) ∧ PostsInOrder (s.turn t).1 (ghostStep s g t) ts

theorem orderInv_run : ∀ (ts : List SubTurn) (s : SubState) (g : Ghost) (posted : List Nat), OrderInv s g.D g.F posted →
    SubInv s → s.deleted = false → NoDelete ts → (posted ++ (postedIn ts).map (·.id)).Nodup →
    OrderInv (ghostRun s g ts).1 (ghostRun s g ts).2.D (ghostRun s g ts).2.F (posted ++ (postedIn ts).map (·.id)) := by
  intro ts
  induction ts with
  | nil => intro s g posted h _ _ _ _; simpa [postedIn, ghostRun] using h
  | cons t ts ih =>
    intro s g posted h hs hd hn hnd
    have ht := hn t List.mem_cons_self
    rw [postedIn_cons, List.map_append, ← List.append_assoc] at hnd ⊢
    refine ih _ _ _ ?_ (SubInv_turn hs t) ((turn_deleted t ht.1).trans hd) (fun u hu => hn u (List.mem_cons_of_mem _ hu)) hnd
    cases t with
    | post ms => exact h.post hs hd ms (List.nodup_append.mp hnd).1
    | pull mx now => simpa [postedBy, ghostStep] using h.pull hs hd mx now
    | ack ids => simpa [postedBy, ghostStep] using h.other hs hd _ (.inl ⟨ids, rfl⟩)
    | modify mods => simpa [postedBy, ghostStep] using h.other hs hd _ (.inr (.inl ⟨mods, rfl⟩))
    | expire now => simpa [postedBy, ghostStep] using h.other hs hd _ (.inr (.inr ⟨now, rfl⟩))
    | deleteBegin => exact absurd rfl ht.1
    | deleteEnd => exact absurd rfl ht.2
    | getStats => simpa [postedBy, ghostStep, SubState.turn] using h
    | getInfo => simpa [postedBy, ghostStep, SubState.turn] using h

/-- First deliveries occur in post order (posted ids being distinct). -/
theorem first_deliveries_prefix (ackDl : Nat) (ts : List SubTurn) (hn : NoDelete ts)
    (hnd : ((postedIn ts).map (·.id)).Nodup) :
    (ghostRun (SubState.init ackDl) ⟨[], [], 0⟩ ts).2.F <+: (postedIn ts).map (·.id) := by
  have h0 : OrderInv (SubState.init ackDl) [] [] [] := by
    constructor <;> simp [SubState.init, Tracker.empty, freshOf, held]
  have := (orderInv_run ts _ ⟨[], [], 0⟩ [] h0 (SubInv_init ackDl) rfl hn (by simpa using hnd)).chain
  exact ⟨_, by simpa using this⟩

theorem postsInOrder_incr : ∀ (ts : List SubTurn) (s : SubState) (g : Ghost) (pre : List Nat), PostsInOrder s g ts →
    Incr pre → (∀ i ∈ pre, i ≤ g.hi) → Incr (pre ++ (postedIn ts).map (·.id)) := by
  intro ts
  induction ts with
  | nil => intro s g pre _ hp _; simpa [postedIn] using hp
  | cons t ts ih =>
    intro s g pre hp hpre hb
    simp only [PostsInOrder] at hp
    rw [postedIn_cons, List.map_append, ← List.append_assoc]
    cases t with
    | post ms =>
      have hmax : ∀ x ∈ g.hi :: ms.map (·.id), x ≤ (ms.map (·.id)).foldl max g.hi :=
        (List.max?_le_iff List.max?_cons').mp (Nat.le_refl _)
      refine ih _ _ _ hp.2 (List.pairwise_append.mpr ⟨hpre, hp.1.1, fun x hx y hy => ?_⟩) fun i hi => ?_
      · obtain ⟨m, hm, rfl⟩ := List.mem_map.mp hy
        exact Nat.lt_of_le_of_lt (hb x hx) (hp.1.2 m hm)
      · rcases List.mem_append.mp hi with hi | hi
        · exact Nat.le_trans (hb i hi) (hmax _ List.mem_cons_self)
        · exact hmax i (List.mem_cons_of_mem _ hi)
    | _ => simpa [postedBy] using ih _ _ pre hp.2 hpre hb

/-- On every subscription, under every schedule of its consumers, ackers, nackers and expiries:
    the first deliveries of messages occur in strictly increasing id order — the order in which the
    topic accepted them — and every first delivery is above everything delivered before it; only
    redeliveries may appear out of order. Messages of one publish, posted by one turn, are
    consecutive in that order. -/
theorem C08_first_delivery_order (ackDl : Nat) (ts : List SubTurn) (hn : NoDelete ts)
    (hp : PostsInOrder (SubState.init ackDl) ⟨[], [], 0⟩ ts) :
    Incr (ghostRun (SubState.init ackDl) ⟨[], [], 0⟩ ts).2.F := by
  have hinc : Incr ((postedIn ts).map (·.id)) := by
    simpa using postsInOrder_incr ts _ _ [] hp List.Pairwise.nil (by simp)
  exact hinc.sublist (first_deliveries_prefix ackDl ts hn (hinc.imp Nat.ne_of_lt)).sublist

/-! non-vacuity: 5 is nacked and comes back behind 6: deliveries 5, 6, 5, 7, first deliveries 5, 6, 7 -/
example :
    (ghostRun (SubState.init 10000000) ⟨[], [], 0⟩
      [.post [⟨5, [], [], 0⟩, ⟨6, [], [], 0⟩], .pull 1 0, .modify [(1, none)], .post [⟨7, [], [], 0⟩], .pull 10 1]).2.F = [5, 6, 7] ∧
    (ghostRun (SubState.init 10000000) ⟨[], [], 0⟩
      [.post [⟨5, [], [], 0⟩, ⟨6, [], [], 0⟩], .pull 1 0, .modify [(1, none)], .post [⟨7, [], [], 0⟩], .pull 10 1]).2.D = [5, 6, 5, 7] := by
  decide

/-! non-vacuity: the first three ids of the topic with internal id 2 (`2 · 2^32 + k`) -/
example : (mkMsgs 2 0 0 [([1], []), ([2], []), ([3], [])] 0).map (·.id) = [8589934593, 8589934594, 8589934595] := by decide

/-- **Posts reach every subscription in accept order, under any schedule.** For every subscription,
    the sequence of batches its actor has handled followed by those still in its mailbox is ordered
    by id range: every id of an earlier batch is below every id of a later one — the order in
    which the topic actor accepted the publishes. (With `C08_first_delivery_order`, which takes
    posts in id order as its hypothesis, first deliveries are in publish order.) -/
theorem C08_posts_in_order (cap : Nat) (s : P6.State) (h : P6.Reachable (P6.init cap) s) (x : Nat) :
    (P6.seq s x).Pairwise P6.Before :=
  (P6.inv_reachable h).sorted x

/-- **Ids are issued in accept order.** The id ranges of all publish turns, in the order the topic
    actor accepted them, are disjoint and increasing, whatever the interleaving of publishers. -/
theorem C08_accept_order (cap : Nat) (s : P6.State) (h : P6.Reachable (P6.init cap) s) :
    (P6.turnBatches s).Pairwise P6.Before :=
  (P6.inv_reachable h).turnsSorted

/-- A batch is contiguous and enters a subscription's queue as a whole: one post carries the whole
    id range `lo+1 … lo+n` of its publish turn (there is no label that splits a batch), and no id of
    any batch exceeds the topic's counter. -/
theorem C08_batches_below_counter (cap : Nat) (s : P6.State) (h : P6.Reachable (P6.init cap) s) (x : Nat)
    (b : P6.Batch) (hb : b ∈ P6.seq s x) : b.lo + b.n ≤ s.ctr :=
  (P6.inv_reachable h).below x b hb

/-- **The messages of one Publish request stay contiguous.** The id ranges of any two publish turns are
    disjoint and do not interleave: no id of another request lies inside the range `lo+1 … lo+n` of a
    request, whatever the interleaving of the publishers (one Publish request is one publish turn). -/
theorem C08_request_ranges_disjoint (cap : Nat) (s : P6.State) (h : P6.Reachable (P6.init cap) s) :
    (P6.turnBatches s).Pairwise (fun a b => ∀ i, a.lo < i → i ≤ a.lo + a.n → ¬ (b.lo < i ∧ i ≤ b.lo + b.n)) := by
  refine (C08_accept_order cap s h).imp ?_
  intro a b hab i h1 h2 h3
  unfold P6.Before at hab
  omega

/-! non-vacuity: two racing publishers at capacity 1; subscription 1 handles the batches in accept order -/
example :
    (P6.run (P6.init 1)
      [.cliAttach 1, .topicTake, .cliPublish 7 2, .topicTake, .cliPublish 8 3, .postDone 1, .reply, .topicTake,
       .subTake 1, .postDone 1, .subTake 1, .reply]).map
      (fun s => (s.taken 1, P6.turnBatches s, s.ctr)) =
    some (([P6.Batch.mk 0 2, P6.Batch.mk 2 3], [P6.Batch.mk 0 2, P6.Batch.mk 2 3], 5) : List P6.Batch × List P6.Batch × Nat) := by decide

end Deltio
