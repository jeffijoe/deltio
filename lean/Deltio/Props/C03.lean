import Deltio.Lemmas.SubRun
/-
  C03 — A delivered message is exclusively leased until its deadline. Every consumer (unary Pull, StreamingPull,
  push round) obtains messages only through `pull` turns of the one subscription actor.
-/
namespace Deltio

/-- While a delivery is outstanding, no turn hands its message to anybody: deliveries come from
    the backlog, and the backlog holds no message that is outstanding. `hnd`: message ids held
    by the subscription are pairwise distinct (from `C01_partition`). -/
theorem C03_exclusive_step {s : SubState} (hnd : ((held s).map (·.id)).Nodup) (d : Deliv)
    (hd : d ∈ s.out.msgs) (t : SubTurn) :
    ∀ x ∈ (s.turn t).2.delivered, x.msg.id ≠ d.msg.id := by
  intro x hx he
  have hb := (delivered_from_backlog s t x hx).1
  unfold held at hnd
  rw [List.map_append, List.nodup_append] at hnd
  exact hnd.2.2 _ (List.mem_map_of_mem hb) _ (List.mem_map_of_mem (List.mem_map_of_mem hd)) he

/-- The lease itself persists (same ack id, same deadline) through every turn except an
    acknowledgement or modification naming its ack id, an expiry turn at or after its deadline,
    or the deletion of the subscription. -/
theorem C03_lease_persists {s : SubState} (h : SubInv s) (t : SubTurn) (d : Deliv) (hd : d ∈ s.out.msgs)
    (hne : ¬ endsLease d.ack d.deadline t) : d ∈ (s.turn t).1.out.msgs :=
  lease_persists h t d hd hne

/-- Run form: along any sequence of turns none of which ends the lease of `d`, the message of
    `d` is delivered by no turn. -/
theorem C03_exclusive {s : SubState} (h : SubInv s) (hdel : s.deleted = false) (d : Deliv) (hd : d ∈ s.out.msgs)
    (ts : List SubTurn) (hn : NoDelete ts) (hfresh : ((held s ++ postedIn ts).map (·.id)).Nodup)
    (hkeep : ∀ t ∈ ts, ¬ endsLease d.ack d.deadline t) :
    ∀ p u rest, ts = p ++ u :: rest → ∀ x ∈ ((s.exec p).turn u).2.delivered, x.msg.id ≠ d.msg.id := by
  intro p u rest hts
  obtain ⟨hnp, hsub⟩ := prefix_hyps hts hn hfresh
  have hnd := exec_nodup h hdel p hnp hsub
  rw [List.map_append] at hnd
  exact C03_exclusive_step (List.nodup_append.mp hnd).1 d
    (lease_persists_exec h d hd p fun t ht => hkeep t (hts ▸ List.mem_append_left _ ht)) u

/-- Every delivery carries an ack id never used before on the subscription: ack ids handed out by
    a turn lie in `[nextAck before, nextAck after)`, and `nextAck` never decreases. -/
theorem C03_ack_ids_fresh (s : SubState) (t : SubTurn) :
    (∀ d ∈ (s.turn t).2.delivered, s.nextAck ≤ d.ack ∧ d.ack < (s.turn t).1.nextAck) ∧
    s.nextAck ≤ (s.turn t).1.nextAck ∧
    (((s.turn t).2.delivered).map (·.ack)).Nodup := by
  refine ⟨fun d hd => (delivered_from_backlog s t d hd).2, nextAck_mono s t, ?_⟩
  rcases delivered_spec s t with h | ⟨_, _, _, _, h⟩
  · rw [h]; simp
  · rw [h]; exact mkDelivs_acks_nodup _ _ _

/-- No ack id issued by a later turn equals one issued earlier, nor one still outstanding. -/
theorem C03_ack_ids_never_reused {s : SubState} (h : SubInv s) (ts : List SubTurn) (u : SubTurn) :
    ∀ x ∈ ((s.exec ts).turn u).2.delivered, (∀ d ∈ s.out.msgs, d.ack < x.ack) ∧ s.nextAck ≤ x.ack := by
  intro x hx
  have h1 := (delivered_from_backlog _ u x hx).2.1
  have h2 := nextAck_mono_exec s ts
  refine ⟨fun d hd => ?_, by omega⟩
  have := h.acks d hd
  omega

/-- No response contains the same message twice. -/
theorem C03_no_dup_in_response {s : SubState} (hnd : ((held s).map (·.id)).Nodup) (t : SubTurn) :
    (((s.turn t).2.delivered).map (·.msg.id)).Nodup := by
  rcases delivered_spec s t with h | ⟨max16, now, rfl, hd, _⟩
  · rw [h]; exact List.nodup_nil
  · -- what is delivered is a prefix of the backlog, whose ids are distinct
    have hpre : (s.turn (.pull max16 now)).2.delivered.map (·.msg) <+: s.backlog := ⟨_, pull_fifo s max16 now hd⟩
    have hbl : (s.backlog.map (·.id)).Nodup := (List.nodup_append.mp (List.map_append ▸ hnd)).1
    have := hbl.sublist (hpre.sublist.map _)
    rwa [List.map_map] at this

/-! non-vacuity: a lease blocks redelivery until the expiry turn at its deadline, which issues a new ack id -/
example :
    let s := (SubState.init 10000000).exec [.post [⟨7, [], [], 0⟩], .pull 5 0]
    s.out.msgs.map (·.deadline) = [10000000] ∧
    ((s.exec [.expire 9999999]).turn (.pull 5 9999999)).2.delivered = [] ∧
    (((s.exec [.expire 10000000]).turn (.pull 5 10000000)).2.delivered).map (·.ack) = [2] := by
  decide

end Deltio
