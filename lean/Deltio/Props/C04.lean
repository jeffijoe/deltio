import Deltio.Lemmas.SubRun
import Deltio.Props.C03
import Deltio.Lemmas.Timer
/-
  C04 — Unacked deliveries are redelivered at the ack deadline, never earlier.
  Time is µs since the process epoch; `now` arguments are universally quantified.
-/
namespace Deltio

/-- The effective ack deadline: the value the subscription was created with, but at least 10 s. -/
theorem C04_eff_deadline (v : Int) :
    (effAckDeadlineSecs v : Int) = if v ≤ 10 then 10 else v := by
  unfold effAckDeadlineSecs
  split <;> simp <;> omega

/-- Rounding never makes a deadline earlier and adds less than 100 ms. -/
theorem C04_round_bounds (t : Nat) : t ≤ roundDeadline t ∧ roundDeadline t < t + 100000 := by
  unfold roundDeadline; omega

/-- Every delivery of a pull turn at time `now` is stamped with the deadline
    `round(now + ack deadline)`, hence not before `now + ack deadline` and less than 100 ms after. -/
theorem C04_deadline_value (s : SubState) (max16 now : Nat) :
    ∀ d ∈ (s.turn (.pull max16 now)).2.delivered,
      d.deadline = roundDeadline (now + s.ackDl) ∧ now + s.ackDl ≤ d.deadline ∧ d.deadline < now + s.ackDl + 100000 := by
  intro d hd
  rw [pull_deadline s max16 now d hd]
  exact ⟨rfl, C04_round_bounds _⟩

/-- Not before the deadline: a delivery that is neither acknowledged nor modified stays leased
    through every turn at a time before its deadline — any turn at all except an ack / modify
    naming its ack id, an expiry turn with `now ≥ deadline`, or deletion. (And while it is leased
    nobody else gets the message: `C03_exclusive`.) -/
theorem C04_not_before {s : SubState} (h : SubInv s) (d : Deliv) (hd : d ∈ s.out.msgs) (ts : List SubTurn)
    (hkeep : ∀ t ∈ ts, ¬ endsLease d.ack d.deadline t) : d ∈ (s.exec ts).out.msgs :=
  lease_persists_exec h d hd ts hkeep

/-- At the deadline: the first expiry turn with `now ≥ deadline` puts the message at the back of
    the queue and wakes a consumer; the old ack id is then outstanding no more (acknowledging or
    modifying it is a no-op, `C02_noop` / `C05_unknown_ignored`), and every later delivery of the
    message carries a strictly larger ack id. -/
theorem C04_at_deadline {s : SubState} (h : SubInv s) (d : Deliv) (hd : d ∈ s.out.msgs) (now : Nat)
    (hdl : d.deadline ≤ now) :
    let s' := (s.turn (.expire now)).1
    d.msg ∈ s'.backlog ∧ (∀ x ∈ s'.out.msgs, x.ack ≠ d.ack) ∧ s'.out.lookup d.ack = none ∧
    (s.turn (.expire now)).2.notified = true ∧ d.ack < s'.nextAck ∧ (s.turn (.expire now)).2.ub = false :=
  at_deadline h d hd now hdl

/-- Redelivery carries a new ack id: whatever a later turn delivers has an ack id above the old. -/
theorem C04_new_ack_id {s : SubState} (h : SubInv s) (d : Deliv) (hd : d ∈ s.out.msgs) (ts : List SubTurn) (u : SubTurn) :
    ∀ x ∈ ((s.exec ts).turn u).2.delivered, d.ack < x.ack :=
  fun x hx => (C03_ack_ids_never_reused h ts u x hx).1 d hd

/-- The expiry timer is armed for the earliest deadline: `next_expiration` is the minimum. -/
theorem C04_next_expiration_min {t : Tracker} (h : t.Inv) :
    ∀ d ∈ t.msgs, ∃ e, t.nextExpiration = some e ∧ e ≤ d.deadline :=
  nextExpiration_le h

/-- Slack: the timer tick that serves deadline `R` is at most 999 µs after it, so the expiry turn
    is enabled within `ack deadline + 100 ms + 1 ms` of the hand-out. -/
theorem C04_slack (now ackDl : Nat) :
    ceilMs (roundDeadline (now + ackDl)) < now + ackDl + 101000 ∧ roundDeadline (now + ackDl) ≤ ceilMs (roundDeadline (now + ackDl)) := by
  have h1 : ceilMs (roundDeadline (now + ackDl)) ≤ roundDeadline (now + ackDl) + 999 := Nat.div_mul_le_self _ _
  have h2 := (C04_round_bounds (now + ackDl)).2
  exact ⟨by omega, ceilMs_ge _⟩

/-! non-vacuity: the rounding adds `t % 100 ms` (10.03 s ↦ 10.06 s, 10.15 s ↦ 10.20 s); a delivery at
    30 ms with a 10 s ack deadline is still leased at 10.059999 s and requeued at 10.06 s -/
example : roundDeadline 10030000 = 10060000 ∧ roundDeadline 10150000 = 10200000 := by decide
example :
    let s := (SubState.init 10000000).exec [.post [⟨7, [], [], 0⟩], .pull 5 30000]
    s.out.msgs.map (·.deadline) = [10060000] ∧
    (s.exec [.expire 10059999]).out.msgs.length = 1 ∧ (s.exec [.expire 10060000]).backlog.length = 1 := by decide

/-- C04 (system model, no StreamingPull open, at most 10^6 deliveries outstanding): after the clock
    has been advanced to `target` on the timer grid, every delivery that is still outstanding has its
    deadline's timer tick after `target` — nothing stays leased beyond its deadline by a whole tick;
    what expired was requeued by the expiry turns of the loop (`C04_at_deadline`). -/
theorem C04_advance_not_late (sys : Sys) (target : Nat) (hs : sys.streams = []) (hok : SubsOk sys)
    (hinv : SysInv sys) (hfuel : sys.totalOut ≤ 1000000) :
    ∀ e ∈ (Sys.advanceTo 0 1000000 target sys).subs, ∀ dv ∈ e.st.out.msgs, target < ceilMs dv.deadline := by
  have hset := advanceTo_settled 0 1000000 target sys hs hok (SidsUnique_of_SysInv hinv) hfuel
  have hok' := (advanceTo_data 0 1000000 target sys).subsOk hok
  intro e he dv hdv
  have := settled_not_late hok' hset e he dv hdv
  rwa [Nat.add_zero] at this

end Deltio
