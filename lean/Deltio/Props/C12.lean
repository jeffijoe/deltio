import Deltio.Proto.Wake
import Deltio.Model.System
/-
  C12 — Deleting a subscription releases the consumers waiting on it.
  Slice P2 with the deletion signal: `delete` = DeleteEnd (deletion signal completed, all Notify
  waiters woken, actor exited so that queued and later requests get Closed). Both outcomes of the
  consumers' randomised `select!` are labels (`wakeDeleted viaSignal`).
-/
namespace Deltio
open P2

/-- Before the fix (a50e01f): a StreamingPull loop whose `select!` takes the `signal` branch
    after the deletion re-pulls, gets Closed from the exited actor and `return`s without a status:
    the response stream never terminates while the request half is open. -/
theorem C12_pinned_hang :
    run false false P2.init [.arrive, .pullTurn 1, .poll, .delete, .wakeDeleted true, .closed true true] =
      some { backlog := 0, permit := false, q := 0, g0 := 0, gp := 0, parked := 0, notif := 0, blk := 0, other := 0,
             deleted := true, ended := 0, silent := 1 } := by
  decide

/-- Steps of the repaired consumers (everything except the pinned silent end and the
    environment-only `cancelQueued` / non-pull requests). -/
def repairedStep : Label → Bool
  | .closed _ pinned => !pinned
  | .cancelQueued => false
  | .otherArrive => false
  | .otherTurn => false
  | _ => true

/-- Consumers that have not yet terminated, weighted by the steps they still need. After the deletion
    a queued pull finds the mailbox closed (`closed`) and a consumer about to poll sees the `deleted`
    branch ready (`poll`): one step. A notified, a blocked and a returning stream consumer may first
    enqueue another pull (`wakeDeleted true`, `unblock`, `ret true`: → `q`): two. -/
def openWork (s : State) : Nat := 2 * s.notif + s.q + 2 * s.blk + s.g0 + 2 * s.gp + s.parked

/-- After the deletion the guards on `deleted` leave twelve labels; each moves one consumer on (or drops it, or
    handles a queued non-pull request), none parks or notifies anybody, `silent` never falls: under the repaired
    steps a countdown of `openWork` with `silent` unchanged. `C12_nobody_parks` and `C12_released_measure` are its projections. -/
theorem released_step (b r : Bool) {s s' : State} (l : Label) (hd : s.deleted = true) (hp : s.parked = 0)
    (hs : step b r s l = some s') :
    s'.deleted = true ∧ s'.parked = 0 ∧ s.silent ≤ s'.silent ∧
      (repairedStep l = true → openWork s' < openWork s ∧ s'.silent = s.silent) := by
  cases l <;> simp [step, hd, hp, ← apply_ite some] at hs <;> obtain ⟨h0, rfl⟩ := hs <;> (try split) <;>
    simp [openWork, repairedStep, notifyOne, Nat.sub_one_lt, *] <;> omega

/-- Immediately after the deletion nobody is parked any more (all waiters were notified), and it
    stays that way: a consumer that polls after the deletion sees the `deleted` branch ready. -/
theorem C12_nobody_parks (b r : Bool) {s s' : State} (l : Label) (hd : s.deleted = true) (hp : s.parked = 0)
    (hs : step b r s l = some s') : s'.deleted = true ∧ s'.parked = 0 ∧ s'.silent = s.silent + (if repairedStep l then 0 else s'.silent - s.silent) := by
  obtain ⟨h1, h2, h3, h4⟩ := released_step b r l hd hp hs
  refine ⟨h1, h2, ?_⟩
  split
  · exact (h4 ‹_›).2
  · omega

/-- DeleteEnd notifies every parked consumer (`notify_waiters`): right after it nobody is parked — the
    hypotheses `deleted`, `parked = 0` of `C12_released_progress` and `C12_released_measure`. -/
theorem C12_delete_wakes_all (b r : Bool) {s s' : State} (hs : step b r s .delete = some s') :
    s'.deleted = true ∧ s'.parked = 0 ∧ s'.notif = s.notif + s.parked := by
  obtain ⟨_, hs⟩ := Option.ite_none_left_eq_some.mp hs
  cases hs
  exact ⟨rfl, rfl, rfl⟩

/-- Released: after the deletion, as long as any consumer has not terminated some consumer step
    is enabled (nobody waits for a message that can no longer arrive). -/
theorem C12_released_progress (b r : Bool) (s : State) (hd : s.deleted = true) (hp : s.parked = 0) (hw : openWork s > 0) :
    ∃ l, repairedStep l = true ∧ (step b r s l).isSome = true := by
  obtain h | h | h | h | h : s.notif ≠ 0 ∨ s.q ≠ 0 ∨ s.g0 ≠ 0 ∨ s.gp ≠ 0 ∨ s.blk ≠ 0 := by
    false_or_by_contra; simp_all [openWork]
  · exact ⟨.wakeDeleted false, rfl, by simp [step, hd, h]⟩
  · exact ⟨.closed false false, rfl, by simp [step, hd, h]⟩
  · exact ⟨.poll, rfl, by simp [step, hd, h]⟩
  · exact ⟨.ret false, rfl, by simp [step, h]⟩
  · exact ⟨.unblock, rfl, by simp [step, h]⟩

/-- Every step of a repaired consumer after the deletion — whichever branch the randomised `select!`
    takes — strictly decreases the remaining work and ends no consumer silently: every consumer
    terminates after at most two of its own steps, at zero virtual time, with an error status
    (`ended`) or with the messages it had already received. -/
theorem C12_released_measure (b r : Bool) {s s' : State} (l : Label) (hd : s.deleted = true) (hp : s.parked = 0)
    (hl : repairedStep l = true) (hs : step b r s l = some s') :
    openWork s' < openWork s ∧ s'.silent = s.silent :=
  (released_step b r l hd hp hs).2.2.2 hl

/-- Racing requests: a request that reaches the mailbox before the actor exits is handled by a turn
    (as if ordered before the deletion); one that does not finds the mailbox closed and is answered
    with an error — in this slice, a queued pull after `delete` always has the `closed` step. -/
theorem C12_racers (b r : Bool) (s : State) (hd : s.deleted = true) (hq : s.q > 0) :
    ∃ s', step b r s (.closed false false) = some s' ∧ s'.ended = s.ended + 1 := by
  have : ¬ s.q = 0 := by omega
  simp [step, hd, this]

/-! non-vacuity: three consumers (parked, queued, notified) are all released by one deletion -/
example :
    run false false P2.init [.arrive, .arrive, .arrive, .pullTurn 1, .pullTurn 1, .poll, .poll, .delete,
        .wakeDeleted true, .wakeDeleted false, .closed true false, .closed false false] =
      some { backlog := 0, permit := false, q := 0, g0 := 0, gp := 0, parked := 0, notif := 0, blk := 0, other := 0,
             deleted := true, ended := 3, silent := 0 } := by
  decide

/-- C12 (system model): DeleteSubscription ends every StreamingPull open on the subscription with
    NOT_FOUND — appended to what the stream had already produced — and leaves no stream open on it;
    streams on other subscriptions are untouched. -/
theorem C12_delete_ends_streams (sys : Sys) (raw : Bytes) (n : Name) (e : SubEnt)
    (hp : parseSubName raw = some n) (hf : sys.findSub n = some e) :
    (∀ s ∈ (sys.rpc (.deleteSub raw)).1.streams, s.sid = e.sid → s.ended = true) ∧
    (∀ s ∈ sys.streams, s.sid = e.sid → s.ended = false →
        { s with outbox := s.outbox ++ [.done .notFound], ended := true } ∈ (sys.rpc (.deleteSub raw)).1.streams) ∧
    (∀ s ∈ sys.streams, s.sid ≠ e.sid → s ∈ (sys.rpc (.deleteSub raw)).1.streams) := by
  simp only [Sys.rpc, hp, hf]
  refine ⟨?_, ?_, ?_⟩
  · intro s hs hsid
    simp only [List.mem_map] at hs
    obtain ⟨s0, _, rfl⟩ := hs
    by_cases hc : (s0.sid == e.sid && !s0.ended) = true
    · simp [hc]
    · simp only [hc, Bool.false_eq_true, ↓reduceIte] at hsid ⊢
      have : (s0.sid == e.sid) = true := by simp [hsid]
      simp only [this, Bool.true_and, Bool.not_eq_true', Bool.not_eq_false] at hc
      exact hc
  · intro s hs hsid hend
    simp only [List.mem_map]
    refine ⟨s, hs, ?_⟩
    have : (s.sid == e.sid && !s.ended) = true := by simp [hsid, hend]
    simp [this]
  · intro s hs hne
    simp only [List.mem_map]
    refine ⟨s, hs, ?_⟩
    have : (s.sid == e.sid && !s.ended) = false := by simp [hne]
    simp [this]

end Deltio
