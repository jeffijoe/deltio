import Deltio.Proto.Deadlock
import Deltio.Lemmas.SysStep
import Deltio.Lemmas.SysSub
/-
  C07 — Every request terminates: no deadlock between topic and subscription actors.
  Slice P3: all interleavings, any number of client requests, any
  mailbox capacity ≥ 1.
-/
namespace Deltio
open P3

def pinnedTrace1 : List Label :=
  [.enq 0,          -- DeleteSubscription enqueued
   .sTake,          -- the subscription actor enters Delete (deleted := true)
   .enq 0,          -- another request fills the subscription mailbox (capacity 1)
   .enq 0,          -- Publish enqueued …
   .tTake,          -- … and taken: the topic actor now waits for room in the subscription mailbox
   .sSendRemove]    -- the deleting actor's RemoveSubscription sits in the topic mailbox, never taken

theorem stuck_of_all (s : State) (h : ∀ l ∈ allLabels s, step s l = none) : Stuck s := by
  intro l
  cases l
  case enq i =>
    by_cases hi : i < s.clients.length
    · exact h _ (List.mem_append_left _ (List.mem_map.mpr ⟨i, List.mem_range.mpr hi, rfl⟩))
    · have : s.clients[i]? = none := by simp; omega
      simp [step, this]
  all_goals exact h _ (by simp [allLabels])

def stuck1 : State :=
  { cap := 1, repaired := false, clients := [], mbT := [.remove], mbS := [.other], publishing := true,
    attached := true, deleted := true, sPhase := .awaitRemove, helper := .none }

/-- Capacity 1: after six steps nothing can move although three requests are unanswered. -/
theorem C07_pinned_deadlock :
    run (init 1 false [.delete, .otherS, .publish]) pinnedTrace1 = some stuck1 ∧ Stuck stuck1 ∧ Pending stuck1 := by
  refine ⟨by decide, ?_, ?_⟩
  · apply stuck_of_all; decide
  · right; left; decide

def stuck16 : State :=
  { cap := 16, repaired := false, clients := [], mbT := [.remove], mbS := List.replicate 16 .other, publishing := true,
    attached := true, deleted := true, sPhase := .awaitRemove, helper := .none }

/-- The real capacity, 16: DeleteSubscription taken, 16 requests fill the subscription mailbox,
    a Publish is taken by the topic actor — 21 steps, then stuck for ever. -/
theorem C07_pinned_deadlock_16 :
    run (init 16 false (.delete :: List.replicate 16 .otherS ++ [.publish]))
        ([.enq 0, .sTake] ++ List.replicate 16 (.enq 0) ++ [.enq 0, .tTake, .sSendRemove]) = some stuck16 ∧
      Stuck stuck16 ∧ Pending stuck16 := by
  refine ⟨by decide, ?_, ?_⟩
  · apply stuck_of_all; decide
  · right; left; decide

/-- The invariant of the repaired protocol. `C07_progress` uses `rep`, `cap`, `phase`, `await` and `exited`;
    `fin` and `del` are there to make `exited` inductive. -/
structure Inv (s : State) : Prop where
  rep : s.repaired = true
  cap : 1 ≤ s.cap
  /-- the repaired actor is never inside a turn (`sendRemove` / `awaitRemove` are phases of the pinned one):
      from a non-empty mailbox it can take, an empty one has room (`cap`) -/
  phase : s.sPhase = .idle ∨ s.sPhase = .exited
  /-- an awaiting helper has its `remove` in the topic mailbox: it is never the only thing pending -/
  await : s.helper = .awaitRemove → TMsg.remove ∈ s.mbT
  /-- the actor exits only on `finish`, the helper's last act: `hSendFinish` never finds the mailbox closed -/
  exited : s.sPhase = .exited → s.helper = .none
  /-- gives `exited` at the turn that takes `finish` -/
  fin : SMsg.finish ∈ s.mbS → s.helper = .none
  /-- gives `fin` at the turn that takes a `delete`: a helper starts only with `deleted = false`, hence with
      no helper running and no `finish` queued -/
  del : (s.helper ≠ .none ∨ SMsg.finish ∈ s.mbS) → s.deleted = true

theorem C07_inv_init (cap : Nat) (h : 1 ≤ cap) (clients : List Want) : Inv (init cap true clients) := by
  constructor <;> simp [init, h]

-- `backward.split false` selects the newer `split`, which reduces only the `if` it splits; the default one also tries to
-- discharge every `if` nested in the term against every hypothesis, at every split: the same proof, far slower to check here.
set_option backward.split false in
theorem C07_inv_step {s s' : State} (h : Inv s) (l : Label) (hs : step s l = some s') : Inv s' := by
  obtain ⟨hrep, hcap, hph, haw, hex, hfin, hdel⟩ := h
  -- Who writes what. `helper`: started by the `sTake` of a `delete` (under `deleted = false`, so by `del` no `finish`
  -- is queued: `fin`); moved by `hSendRemove` (appends the `remove` that `await` asks for), by the `tTake` of that
  -- `remove` (the helper leaves `awaitRemove` as the `remove` leaves the mailbox; any other head leaves it in the
  -- rest), by `hSendFinish` (`helper := none` as `finish` is appended: `fin`). `sPhase`: only by the `sTake` of
  -- `finish` (`exited` from `fin`). `deleted` is never reset. Per branch and clause: `assumption` where the step
  -- writes none of the clause's variables, `simp` with the guards of the branch otherwise.
  cases l <;> simp only [step, hrep, ↓reduceIte] at hs <;> (repeat' split at hs) <;> cases hs <;>
    constructor <;> first | assumption | (simp +contextual [*]; done) | simp_all

theorem C07_inv_reachable (cap : Nat) (h : 1 ≤ cap) (clients : List Want) (s : State)
    (hr : Reachable (init cap true clients) s) : Inv s := by
  induction hr with
  | refl => exact C07_inv_init cap h clients
  | step _ hs ih => exact C07_inv_step ih _ hs

/-- Progress (no deadlock): in every reachable state of the repaired protocol in which anything
    at all is pending, some atomic step is enabled — for every capacity ≥ 1, every number and mix
    of client requests, every interleaving. -/
theorem C07_progress {s : State} (h : Inv s) (hp : Pending s) : ∃ l, (step s l).isSome = true := by
  obtain ⟨hrep, hcap, hph, haw, hex, -, -⟩ := h
  have hc : 0 < s.cap := hcap
  -- the subscription actor is never blocked: it takes its next message
  by_cases h1 : s.sPhase = .idle ∧ s.mbS ≠ []
  · cases hmb : s.mbS with
    | nil => exact absurd hmb h1.2
    | cons m rest => exact ⟨.sTake, by cases m <;> simp [step, h1.1, hmb, hrep] <;> split <;> simp⟩
  -- so a send to it never blocks: its mailbox is closed or empty
  have sendS (a b : State) :
      (if s.sPhase = .exited then some a else if s.mbS.length < s.cap then some b else none).isSome = true := by
    rcases hph with hi | he
    · have : s.mbS = [] := by simpa [hi] using h1
      simp [hi, this, hc]
    · simp [he]
  -- nor is the topic actor: the running Publish enqueues its post (or sees Closed), otherwise the next message is taken
  by_cases h2 : s.publishing = true
  · exact ⟨.tPostDone, by simp [step, h2, sendS]⟩
  cases h3 : s.mbT
  case cons m rest => exact ⟨.tTake, by cases m <;> simp [step, h2, h3, hrep]⟩
  -- both mailboxes have room: whoever wants to send can
  cases h4 : s.clients
  case cons w rest => exact ⟨.enq 0, by cases w <;> simp [step, h4, h3, hc, sendS]⟩
  -- only the helper is left, and it does not wait: the `remove` it would await is not in the topic mailbox
  have hh : s.helper ≠ .none := by rcases hph with hi | he <;> simp_all [Pending]
  cases hh' : s.helper with
  | none => exact absurd hh' hh
  | sendRemove => exact ⟨.hSendRemove, by simp [step, hh', h3, hc]⟩
  | awaitRemove => exact absurd (haw hh') (by simp [h3])
  | sendFinish =>
    have hne : s.sPhase ≠ .exited := fun he => by simp [hex he] at hh'
    exact ⟨.hSendFinish, by simpa [step, hh', hne] using sendS s s⟩

/- Each weight is 1 + the weight of what the consuming step leaves behind. `delete`: enq → `sTake` (helper
   `sendRemove`, 4) → `hSendRemove` (`remove` in the topic mailbox, 3; the awaiting helper weighs 0, that `remove`
   carries its work) → `tTake` (helper `sendFinish`, 2) → `hSendFinish` (`finish`, 1) → `sTake`. Publish: enq →
   `tTake` (`publishing`, 2) → `tPostDone` (`post`, 1) → `sTake`. A dropped successor (not attached, actor exited) loses more. -/
def wWant : Want → Nat
  | .publish => 4 | .otherT => 2 | .otherS => 2 | .delete => 6
def wT : TMsg → Nat
  | .publish => 3 | .remove => 3 | .other => 1
def wS : SMsg → Nat
  | .post => 1 | .delete => 5 | .finish => 1 | .other => 1
def wHelper : Helper → Nat
  | .none => 0 | .sendRemove => 4 | .awaitRemove => 0 | .sendFinish => 2

/-- Remaining work: every pending item weighs the number of atomic steps it still needs. -/
def mu (s : State) : Nat :=
  (s.clients.map wWant).sum + (s.mbT.map wT).sum + (s.mbS.map wS).sum + (if s.publishing then 2 else 0) + wHelper s.helper

set_option backward.split false in -- the newer `split`, as above
theorem mu_decreases {s s' : State} (hrep : s.repaired = true) (hph : s.sPhase = .idle ∨ s.sPhase = .exited)
    (l : Label) (hs : step s l = some s') : mu s' < mu s := by
  -- every label removes one item and adds at most its successor, one lighter; the sweep only evaluates
  -- `mu s` and `mu s'` on each branch of `step`
  cases l <;> simp only [step, hrep, ↓reduceIte] at hs
  case enq i =>
    split at hs
    · cases hs
    · have hsum := sum_eraseIdx wWant s.clients i _ ‹_›
      (repeat' split at hs) <;> cases hs <;> simp +arith [mu, ← hsum, wWant, wT, wS]
  -- the one label that adds weight and removes none belongs to the pinned actor
  case sSendRemove => rcases hph with h | h <;> simp [h] at hs
  all_goals (repeat' split at hs) <;> cases hs <;> simp_all +arith [mu, wT, wS, wHelper] <;> split <;> omega

/-- Every atomic step of the repaired protocol strictly decreases the measure: under every
    schedule all requests are answered after at most `mu` steps (≤ 6 per request). -/
theorem C07_measure {s s' : State} (h : Inv s) (l : Label) (hs : step s l = some s') : mu s' < mu s :=
  mu_decreases h.rep h.phase l hs

/-! non-vacuity: the repaired protocol runs the scenario of `C07_pinned_deadlock` to completion -/
def done1 : State :=
  { cap := 1, repaired := true, clients := [], mbT := [], mbS := [], publishing := false,
    attached := false, deleted := true, sPhase := .exited, helper := .none }

example :
    run (init 1 true [.delete, .otherS, .publish])
      [.enq 0, .sTake, .enq 0, .enq 0, .tTake, .sTake, .tPostDone, .sTake, .hSendRemove, .tTake, .hSendFinish, .sTake] = some done1 ∧
      ¬ Pending done1 := by
  refine ⟨by decide, ?_⟩
  unfold Pending
  decide

/-- Every request other than Pull is answered at the virtual instant it was issued: none of the
    handlers waits for a timer (in the sequential model every step of a handler is enabled at once). -/
theorem C07_zero_time (sys : Sys) (r : Req) (hr : ∀ raw mx ri, r ≠ .pull raw mx ri) : (sys.rpc r).1.clock = sys.clock := by
  have h := apply_clock sys (.rpc r)
  have hT : sys.mayWaitUntil (.rpc r) = 0 := by cases r <;> first | rfl | exact absurd rfl (hr _ _ _)
  rw [hT, Nat.max_zero] at h
  exact Nat.le_antisymm h.2 h.1

/-- A Pull — blocking or not, whatever else is leased, expires or is queued meanwhile — is answered
    no later than its server-side wait limit: 300 s after it was issued, on the timer's millisecond
    grid (`ceilMs`, plus the sub-millisecond phase the paused clock keeps). -/
theorem C07_pull_limit (sys : Sys) (raw : Bytes) (mx : Int) (ri : Bool) :
    (sys.rpc (.pull raw mx ri)).1.clock ≤ ceilMs (sys.clock + pullLimitUs) + sys.clock % 1000 := by
  have h := (apply_clock sys (.rpc (.pull raw mx ri))).2
  have h2 := ceilMs_ge (sys.clock + pullLimitUs)
  dsimp only [Sys.mayWaitUntil, Sys.apply] at h
  omega

/-! non-vacuity: a blocking Pull on an empty subscription waits exactly until the limit -/
example : ((exSys.rpc (.pull exS1 1 false)).1.clock, (exSys.rpc (.pull exS1 1 false)).2) = (300000000, .msgs []) := by decide

end Deltio
