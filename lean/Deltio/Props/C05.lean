import Deltio.Lemmas.SubTurn
import Deltio.Lemmas.Parse
/-
  C05 — ModifyAckDeadline replaces the deadline; zero means nack.
-/
namespace Deltio

/-- Classes of the seconds value, for every integer (in particular the whole i32 range). -/
theorem C05_parse (n : Int) :
    (parseExtension n = .error ↔ n < 0) ∧ (parseExtension n = .nack ↔ n = 0) ∧
    (1 ≤ n ∧ n ≤ 599 → parseExtension n = .secs n.toNat) ∧ (600 ≤ n → parseExtension n = .secs 600) := by
  refine ⟨parseExtension_error, ?_, ?_, ?_⟩ <;> unfold parseExtension
  · split
    · simp; omega
    · split
      · simp; omega
      · split <;> simp [*]
  · intro h
    have h1 : ¬ n < 0 := by omega
    have h2 : ¬ n ≥ 600 := by omega
    have h3 : ¬ n = 0 := by omega
    simp [h1, h2, h3]
  · intro h
    have h1 : ¬ n < 0 := by omega
    simp [h1, h]

/-- The unary RPC rejects a request with an ack id that does not parse, or with a negative seconds
    value and at least one ack id, with INVALID_ARGUMENT and leaves the whole system unchanged —
    whether or not the subscription exists (the parse precedes the lookup). -/
theorem C05_atomic_request (sys : Sys) (raw : Bytes) (secs : Int) (ids : List Bytes)
    (hbad : (∃ b ∈ ids, parseAckId b = none) ∨ (ids ≠ [] ∧ secs < 0)) :
    sys.rpc (.modAck raw secs ids) = (sys, .err .invalidArgument) := by
  have hz : ∀ l : List Bytes, l.zip (l.map (fun _ => secs)) = l.map (fun b => (b, secs)) := fun l => by
    induction l <;> simp [*]
  have hnone : parseMods sys.clock ids (ids.map (fun _ => secs)) = none := by
    rw [parseMods_eq_none, hz]
    rcases hbad with ⟨b, hb, h⟩ | ⟨hne, hs⟩
    · exact ⟨_, List.mem_map_of_mem hb, .inl h⟩
    · obtain ⟨b, hb⟩ := List.exists_mem_of_ne_nil ids hne
      exact ⟨_, List.mem_map_of_mem hb, .inr hs⟩
  dsimp only [Sys.rpc]
  rw [hnone]

/-- Replacement: after `Modify [(a, some R')]` on an outstanding delivery its deadline is `R'`
    (extending or shortening), it is the only delivery with that ack id, its only expiry key is
    `(R', a)` (tracker invariant), and the message is unchanged — so C04 applies with `R'`. -/
theorem C05_replace {s : SubState} (h : SubInv s) (hdel : s.deleted = false) (d : Deliv) (hd : d ∈ s.out.msgs) (R' : Nat) :
    let s' := (s.turn (.modify [(d.ack, some R')])).1
    ({ d with deadline := R' } : Deliv) ∈ s'.out.msgs ∧ s'.out.Inv ∧ s'.backlog = s.backlog ∧
    (∀ x ∈ s'.out.msgs, x.ack = d.ack → x = { d with deadline := R' }) ∧
    (∀ k ∈ s'.out.exps, k.2 = d.ack → k = (R', d.ack)) := by
  have hl := lookup_of_mem h.out.nodup hd
  have hinv := Inv_modifyOne h.out hd R'
  simp only [SubState.turn, hdel, Bool.false_eq_true, ↓reduceIte, Tracker.modify, hl, List.map_nil, List.append_nil]
  have hmem : ({ d with deadline := R' } : Deliv) ∈ s.out.msgs.map (fun x => if x.ack == d.ack then { d with deadline := R' } else x) :=
    List.mem_map.mpr ⟨d, hd, if_pos (beq_self_eq_true _)⟩
  have huniq : ∀ x ∈ s.out.msgs.map (fun x => if x.ack == d.ack then ({ d with deadline := R' } : Deliv) else x), x.ack = d.ack →
      x = { d with deadline := R' } :=
    fun x hx hxa => ack_unique hinv.nodup hx hmem hxa
  refine ⟨hmem, hinv, trivial, huniq, ?_⟩
  intro k hk hk2
  obtain ⟨x, hx, rfl⟩ := (hinv.agree k).mp hk
  rw [huniq x hx hk2]
  rfl

/-- Nack (`N = 0`): the message goes back to the end of the queue in the same turn, both tracker
    entries are removed, and a waiting consumer is notified. -/
theorem C05_nack {s : SubState} (h : SubInv s) (hdel : s.deleted = false) (d : Deliv) (hd : d ∈ s.out.msgs) :
    let r := s.turn (.modify [(d.ack, none)])
    r.1.backlog = s.backlog ++ [d.msg] ∧ (∀ x ∈ r.1.out.msgs, x.ack ≠ d.ack) ∧
    (∀ k ∈ r.1.out.exps, k.2 ≠ d.ack) ∧ r.2.notified = true ∧ r.1.out.Inv := by
  have hl := lookup_of_mem h.out.nodup hd
  have hinv := Inv_removeOne h.out hd
  simp only [SubState.turn, hdel, Bool.false_eq_true, ↓reduceIte, Tracker.modify, hl, List.map_cons, List.map_nil]
  refine ⟨trivial, ?_, ?_, by simp, hinv⟩
  · intro x hx; exact (mem_eraseMsg.mp hx).2
  · intro k hk hk2
    obtain ⟨x, hx, rfl⟩ := (hinv.agree k).mp hk
    exact (mem_eraseMsg.mp hx).2 hk2

/-- Unknown or stale ack ids are ignored: nothing is outstanding under them, nothing changes. -/
theorem C05_unknown_ignored (s : SubState) (mods : List (Nat × Option Nat)) (h : ∀ m ∈ mods, s.out.lookup m.1 = none) :
    (s.turn (.modify mods)).1 = s := by
  simp only [SubState.turn]
  split
  · rfl
  · rw [modify_noop mods s.out h]; simp

/-- Other deliveries are untouched by a modification that does not name them. -/
theorem C05_frame (s : SubState) (mods : List (Nat × Option Nat)) (d : Deliv) (hd : d ∈ s.out.msgs)
    (hn : d.ack ∉ mods.map (·.1)) : d ∈ (s.turn (.modify mods)).1.out.msgs := by
  simp only [SubState.turn]
  split
  · exact hd
  · exact modify_untouched mods s.out d hd hn

/-! non-vacuity: one value of each class (`i32::MAX` is capped at 600 s); a modification to 3 s leaves
    the single expiry key (3 s, ack id 1), a nack puts message 7 back in the queue -/
example : parseExtension (-1) = .error ∧ parseExtension 0 = .nack ∧ parseExtension 599 = .secs 599 ∧
    parseExtension 2147483647 = .secs 600 := by decide
example :
    let s := (SubState.init 10000000).exec [.post [⟨7, [], [], 0⟩], .pull 5 0]
    ((s.turn (.modify [(1, some 3000000)])).1.out.exps = [(3000000, 1)]) ∧
    ((s.turn (.modify [(1, none)])).1.backlog.map (·.id) = [7]) := by decide

end Deltio
