import Deltio.Proto.Flow
/-
  C19 — Flow-control waiters never miss free capacity.
  Slice P5: every interleaving of the waiter's atomic operations with the
  atomic operations of any number of concurrent inc / dec calls.
-/
namespace Deltio
open P5

/-- `C19_no_missed_capacity` reads `touched`, `lmCur`, `lbCur` and `why`; `C19_safety` is `ret`. `sawOk`
    carries the first half of a check to its second load (`why`, `ret`); `we_le` makes the epoch after
    a `notify_waiters` differ from the recorded one. -/
structure FlowInv (s : State) : Prop where
  we_le : s.we ≤ s.epoch
  /-- a fetch since the future was created, with no `notify_waiters` since: its call is still running -/
  touched : s.touched = true → s.we = s.epoch → (s.wpc = .c2m ∨ s.wpc = .c2b ∨ s.wpc = .parked) → s.ops.length > 0
  /-- values loaded since the creation are current as long as nothing was fetched since -/
  lmCur : s.touched = false → (s.wpc = .c2b ∨ s.wpc = .parked) → s.lm = s.msgs
  lbCur : s.touched = false → s.wpc = .parked → s.sawM = true → s.lb = s.bytes
  sawOk : (s.wpc = .c1b ∨ s.wpc = .c2b) → s.sawM = true ∧ s.lm < s.maxM
  /-- why the waiter parked -/
  why : s.wpc = .parked → (s.sawM = false ∧ s.lm ≥ s.maxM) ∨ (s.sawM = true ∧ s.lm < s.maxM ∧ s.lb ≥ s.maxB)
  /-- what a returned waiter observed -/
  ret : s.wpc = .returned → s.sawM = true ∧ s.lm < s.maxM ∧ s.lb < s.maxB

theorem C19_inv_init (maxB maxM : Int) : FlowInv (P5.init maxB maxM) := by
  constructor <;> simp [P5.init]

/-- The other threads never write the waiter's own variables: `sawOk`, `why`, `ret` carry over. A fetch sets
    `touched` (voiding `lmCur`, `lbCur`) while its call stays in `ops`; the final `notify_waiters` moves the epoch
    past `we` (voiding `touched`). The waiter's own steps: a finite check, each field guarded by the program counter. -/
theorem C19_inv_step {s s' : State} (h : FlowInv s) (l : Label) (hs : step s l = some s') : FlowInv s' := by
  obtain ⟨h1, h2, h3, h4, h5, h6, h7⟩ := h
  cases l with
  | begin db dm =>
    cases hs
    exact ⟨h1, fun _ _ _ => by simp, h3, h4, h5, h6, h7⟩
  | opStep i =>
    dsimp only [step] at hs
    split at hs
    · cases hs
    · have hlen : s.ops.length > 0 := Nat.zero_lt_of_lt (List.getElem?_eq_some_iff.mp ‹_›).1
      (repeat' split at hs) <;> cases hs
      · exact ⟨h1, fun _ _ _ => by simpa using hlen, nofun, nofun, h5, h6, h7⟩
      · exact ⟨h1, fun _ _ _ => by simpa using hlen, nofun, nofun, h5, h6, h7⟩
      · exact ⟨Nat.le_succ_of_le h1, fun _ he => by dsimp only at he; omega, h3, h4, h5, h6, h7⟩
  | waiter =>
    dsimp only [step] at hs
    (repeat' split at hs) <;> cases hs <;>
      constructor <;> first | assumption | (simp +contextual [*] <;> omega)

theorem C19_inv_run : ∀ (ls : List Label) {s s' : State}, FlowInv s → run s ls = some s' → FlowInv s'
  | [], _, _, h, hr => Option.some.inj hr ▸ h
  | l :: ls, _, _, h, hr => by
    rw [run] at hr
    split at hr
    · exact C19_inv_run ls (C19_inv_step h l ‹_›) hr
    · cases hr

/-- Safety: the waiter never resumes without having observed, within one check, the message count
    below its limit and then the byte count below its limit. -/
theorem C19_safety (maxB maxM : Int) (ls : List Label) (s : State) (hr : run (P5.init maxB maxM) ls = some s)
    (hret : s.wpc = .returned) : s.sawM = true ∧ s.lm < s.maxM ∧ s.lb < s.maxB :=
  (C19_inv_run ls (C19_inv_init maxB maxM) hr).ret hret

/-- No missed capacity: in every reachable state in which no inc / dec call is in progress and the
    waiter has no enabled step (it is parked and no `notify_waiters` ran since its future was
    created), at least one counter is at or above its limit. Contrapositive: whenever both counts
    are below their limits, however the other threads' operations interleaved with the beginning of
    the wait, the waiter is runnable or has already resumed. -/
theorem C19_no_missed_capacity (maxB maxM : Int) (ls : List Label) (s : State) (hr : run (P5.init maxB maxM) ls = some s)
    (hidle : s.ops = []) (hstuck : step s .waiter = none) (hnr : s.wpc ≠ .returned) :
    ¬ (s.msgs < s.maxM ∧ s.bytes < s.maxB) := by
  have h := C19_inv_run ls (C19_inv_init maxB maxM) hr
  -- a waiter without an enabled step is parked with an up-to-date epoch
  have hp : s.wpc = .parked ∧ s.we = s.epoch := by
    dsimp only [step] at hstuck
    (repeat' split at hstuck) <;> cases hstuck <;> simp_all
  obtain ⟨hpk, he⟩ := hp
  have hnt : s.touched = false := Bool.eq_false_iff.mpr fun ht => by
    simpa [hidle] using h.touched ht he (.inr (.inr hpk))
  have hlm := h.lmCur hnt (Or.inr hpk)
  rcases h.why hpk with ⟨_, hge⟩ | ⟨hs, _, hge⟩
  · intro hc; omega
  · have hlb := h.lbCur hnt hpk hs
    intro hc; omega

/-- Broadcast: one `notify_waiters` (the last step of any inc / dec) bumps the epoch, and a parked
    waiter whose recorded epoch differs from the current one is runnable — whichever waiter it is,
    so any number of simultaneously parked waiters are all released by one such step. -/
theorem C19_broadcast (s : State) (hp : s.wpc = .parked) (i : Nat) (o : Op) (ho : s.ops[i]? = some o) (hpc : o.pc = 2)
    (hle : s.we ≤ s.epoch) :
    ∃ s', step s (.opStep i) = some s' ∧ s'.epoch = s.epoch + 1 ∧ (step s' .waiter).isSome = true := by
  have h0 : ¬ o.pc = 0 := by omega
  have h1 : ¬ o.pc = 1 := by omega
  refine ⟨{ s with epoch := s.epoch + 1, ops := s.ops.eraseIdx i }, by simp [step, ho, h0, h1], rfl, ?_⟩
  have : s.we ≠ s.epoch + 1 := by omega
  simp [step, hp, this]

/-! non-vacuity: a dec racing with the beginning of the wait -/
example :
    -- limit 1 message; one outstanding. The waiter fails its first check, a `dec` runs to completion
    -- between the creation of the future and the second check: the waiter resumes on the second check.
    ∃ s, run { P5.init 100 1 with msgs := 1 } [.waiter, .waiter, .begin 0 (-1), .opStep 0, .opStep 0, .opStep 0, .waiter, .waiter] = some s ∧
      s.wpc = .returned := by
  refine ⟨_, rfl, ?_⟩
  decide

example :
    -- the dec's fetches land after the second check but its notify comes later: parked, then woken.
    ∃ s, run { P5.init 100 1 with msgs := 1 } [.waiter, .waiter, .begin 0 (-1), .waiter, .opStep 0, .opStep 0, .opStep 0, .waiter, .waiter, .waiter, .waiter] = some s ∧
      s.wpc = .returned := by
  refine ⟨_, rfl, ?_⟩
  decide

end Deltio
