import Deltio.Lemmas.SubActor
namespace Deltio

structure SubInv (s : SubState) : Prop where
  out : s.out.Inv
  /-- A pull numbers its deliveries from `nextAck` up: the freshness under which `Tracker.add` keeps `Tracker.Inv` and
      only appends (`add_spec`, `foldl_add`). -/
  acks : ∀ d ∈ s.out.msgs, d.ack < s.nextAck

theorem SubInv_init (dl : Nat) : SubInv (SubState.init dl) := by
  constructor
  · exact Inv_empty
  · intro d hd; simp [SubState.init, Tracker.empty] at hd

/-- Messages the subscription currently holds (queued or leased). -/
def held (s : SubState) : List Msg := s.backlog ++ s.out.msgs.map (·.msg)

def postedBy : SubTurn → List Msg
  | .post ms => ms
  | _ => []

/-- Messages removed for good by this turn (acknowledged while outstanding). -/
def ackedBy (s : SubState) : SubTurn → List Msg
  | .ack ids => if s.deleted then [] else (s.out.remove ids).2.map (·.msg)
  | _ => []

theorem pull_turn (s : SubState) (max16 now : Nat) (hd : s.deleted = false) :
    let n := pullCount max16 s.backlog.length
    let ds := mkDelivs (roundDeadline (now + s.ackDl)) s.nextAck (s.backlog.take n)
    (s.turn (.pull max16 now)).1 = { s with backlog := s.backlog.drop n, nextAck := s.nextAck + n,
                                            out := ds.foldl Tracker.add s.out } ∧
    (s.turn (.pull max16 now)).2.delivered = ds := by
  simp only [SubState.turn, hd, Bool.false_eq_true, ↓reduceIte, pullLoop_closed, List.length_nil, Nat.sub_zero,
    List.nil_append, pullCount, Nat.min_comm s.backlog.length, ← List.take_eq_take_min, ← List.drop_eq_drop_min,
    and_self]

theorem pull_out {s : SubState} (h : SubInv s) (hd : s.deleted = false) (max16 now : Nat) :
    (s.turn (.pull max16 now)).1.out.Inv ∧
    (s.turn (.pull max16 now)).1.out.msgs = s.out.msgs ++ (s.turn (.pull max16 now)).2.delivered := by
  rw [(pull_turn s max16 now hd).1, (pull_turn s max16 now hd).2]
  exact foldl_add _ _ _ _ h.out h.acks

theorem expire_turn {s : SubState} (h : SubInv s) (now : Nat) : ∃ out' ds,
    s.turn (.expire now) = ({ s with out := out', backlog := s.backlog ++ ds.map (·.msg) },
                            { requeued := ds, notified := !ds.isEmpty }) ∧
    out'.Inv ∧ (out'.msgs ++ ds).Perm s.out.msgs ∧
    (∀ d, d ∈ ds ↔ d ∈ s.out.msgs ∧ d.deadline ≤ now) ∧ (∀ d, d ∈ out'.msgs ↔ d ∈ s.out.msgs ∧ now < d.deadline) ∧
    (ds = [] → out' = s.out) := by
  obtain ⟨t', ds, he, hi, hp, h3, h4⟩ := takeExpired_spec h.out now
  cases ds with
  | nil =>
    refine ⟨s.out, [], by simp [SubState.turn, he], h.out, by simp, h3, fun d => ?_, fun _ => rfl⟩
    rw [← h4, ← hp.mem_iff, List.append_nil]
  | cons x xs => exact ⟨t', x :: xs, by simp [SubState.turn, he], hi, hp, h3, h4, by simp⟩

/-- No turn changes the ack deadline, only `deleteBegin` the deleted flag, and only a pull turn of a live
    subscription delivers anything or moves the ack-id counter. -/
theorem turn_frame (s : SubState) (t : SubTurn) :
    (s.turn t).1.ackDl = s.ackDl ∧ (t ≠ .deleteBegin → (s.turn t).1.deleted = s.deleted) ∧
    ((∃ max16 now, t = .pull max16 now ∧ s.deleted = false) ∨
      (s.turn t).2.delivered = [] ∧ (s.turn t).1.nextAck = s.nextAck) := by
  cases t with
  | pull max16 now =>
    cases hd : s.deleted with
    | false => exact ⟨by simp [SubState.turn, hd], fun _ => by simp [SubState.turn, hd], .inl ⟨_, _, rfl, rfl⟩⟩
    | true => simp [SubState.turn, hd]
  | deleteBegin => exact ⟨rfl, fun h => absurd rfl h, .inr ⟨rfl, rfl⟩⟩
  | _ => unfold SubState.turn <;> dsimp only <;> (repeat' split) <;> exact ⟨rfl, fun _ => rfl, .inr ⟨rfl, rfl⟩⟩

theorem turn_deleted {s : SubState} (t : SubTurn) (ht : t ≠ .deleteBegin) : (s.turn t).1.deleted = s.deleted :=
  (turn_frame s t).2.1 ht

theorem turn_ackDl (s : SubState) (t : SubTurn) : (s.turn t).1.ackDl = s.ackDl := (turn_frame s t).1

theorem delivered_spec (s : SubState) (t : SubTurn) :
    (s.turn t).2.delivered = [] ∨
    (∃ max16 now, t = .pull max16 now ∧ s.deleted = false ∧
      (s.turn t).2.delivered = mkDelivs (roundDeadline (now + s.ackDl)) s.nextAck (s.backlog.take (pullCount max16 s.backlog.length))) := by
  rcases (turn_frame s t).2.2 with ⟨max16, now, rfl, hd⟩ | h
  · exact .inr ⟨max16, now, rfl, hd, (pull_turn s max16 now hd).2⟩
  · exact .inl h.1

theorem delivered_from_backlog (s : SubState) (t : SubTurn) :
    ∀ d ∈ (s.turn t).2.delivered, d.msg ∈ s.backlog ∧ s.nextAck ≤ d.ack ∧ d.ack < (s.turn t).1.nextAck := by
  intro d hd
  rcases delivered_spec s t with h | ⟨max16, now, rfl, hdel, h⟩
  · rw [h] at hd; cases hd
  · rw [h] at hd
    have := mem_mkDelivs hd
    rw [(pull_turn s max16 now hdel).1]
    refine ⟨List.mem_of_mem_take this.2.2.2, this.1, ?_⟩
    have := List.length_take_le (pullCount max16 s.backlog.length) s.backlog
    simp only; omega

theorem pull_deadline (s : SubState) (max16 now : Nat) :
    ∀ d ∈ (s.turn (.pull max16 now)).2.delivered, d.deadline = roundDeadline (now + s.ackDl) := by
  intro d hd
  rcases delivered_spec s (.pull max16 now) with h | ⟨_, _, ht, _, h⟩
  · rw [h] at hd; cases hd
  · cases ht; rw [h] at hd; exact (mem_mkDelivs hd).2.2.1

theorem nextAck_mono (s : SubState) (t : SubTurn) : s.nextAck ≤ (s.turn t).1.nextAck := by
  rcases (turn_frame s t).2.2 with ⟨max16, now, rfl, hd⟩ | h
  · rw [(pull_turn s max16 now hd).1]; exact Nat.le_add_right _ _
  · exact Nat.le_of_eq h.2.symm

theorem SubInv_turn {s : SubState} (h : SubInv s) (t : SubTurn) : SubInv (s.turn t).1 := by
  cases t with
  | post ms => simp only [SubState.turn]; split <;> exact ⟨h.out, h.acks⟩
  | pull max16 now =>
    cases hd : s.deleted with
    | true => simpa only [SubState.turn, hd, ↓reduceIte] using h
    | false =>
      obtain ⟨h1, h2⟩ := pull_out h hd max16 now
      refine ⟨h1, fun d hdm => ?_⟩
      rcases List.mem_append.mp (h2 ▸ hdm) with hdm | hdm
      · exact Nat.lt_of_lt_of_le (h.acks d hdm) (nextAck_mono s _)
      · exact (delivered_from_backlog s _ d hdm).2.2
  | ack ids =>
    simp only [SubState.turn]
    split
    · exact h
    · exact ⟨(remove_spec ids h.out).1, fun d hdm => h.acks d ((mem_remove_msgs ids s.out d).mp hdm).1⟩
  | modify mods =>
    simp only [SubState.turn]
    split
    · exact h
    · refine ⟨(modify_spec mods h.out).1, fun d hdm => ?_⟩
      obtain ⟨d0, hd0, e, _⟩ := mem_modify_msgs mods h.out d hdm
      exact e ▸ h.acks d0 hd0
  | expire now =>
    obtain ⟨out', ds, he, hi, _, _, h4, _⟩ := expire_turn h now
    rw [he]
    exact ⟨hi, fun d hdm => h.acks d ((h4 d).mp hdm).1⟩
  | deleteBegin => exact ⟨h.out, h.acks⟩
  | deleteEnd => exact ⟨Inv_empty, fun d hd => by cases hd⟩
  | getStats => exact h
  | getInfo => exact h

theorem pull_fifo (s : SubState) (max16 now : Nat) (hd : s.deleted = false) :
    (s.turn (.pull max16 now)).2.delivered.map (·.msg) ++ (s.turn (.pull max16 now)).1.backlog = s.backlog := by
  rw [(pull_turn s max16 now hd).2, (pull_turn s max16 now hd).1, mkDelivs_msgs]
  exact List.take_append_drop _ _

theorem pull_length (s : SubState) (max16 now : Nat) (hd : s.deleted = false) :
    (s.turn (.pull max16 now)).2.delivered.length = pullCount max16 s.backlog.length := by
  rw [(pull_turn s max16 now hd).2, mkDelivs_length, List.length_take]
  exact Nat.min_eq_left (Nat.min_le_left _ _)

/-- Conservation of messages by one turn. The two exceptions: `deleteEnd` clears queue and tracker, and a deleted
    subscription drops what is posted to it. -/
theorem turn_conserve {s : SubState} (h : SubInv s) (hd : s.deleted = false) (t : SubTurn) (ht : t ≠ .deleteEnd) :
    (held (s.turn t).1 ++ ackedBy s t).Perm (held s ++ postedBy t) := by
  cases t with
  | post ms =>
    simp only [SubState.turn, hd, Bool.false_eq_true, ↓reduceIte, held, ackedBy, postedBy, List.append_nil, List.append_assoc]
    exact List.Perm.append_left _ List.perm_append_comm
  | pull max16 now =>
    -- backlog' ++ (out ++ delivered)  ~  (delivered ++ backlog') ++ out
    simp only [held, ackedBy, postedBy, List.append_nil, (pull_out h hd max16 now).2, List.map_append]
    rw [← pull_fifo s max16 now hd]
    exact List.perm_append_comm.trans (by rw [List.append_assoc]; exact List.perm_append_comm)
  | ack ids =>
    simp only [SubState.turn, hd, Bool.false_eq_true, ↓reduceIte, held, ackedBy, postedBy, List.append_nil, List.append_assoc]
    refine List.Perm.append_left _ ?_
    rw [← List.map_append]
    exact (remove_spec ids h.out).2.map _
  | modify mods =>
    simp only [SubState.turn, hd, Bool.false_eq_true, ↓reduceIte, held, ackedBy, postedBy, List.append_nil, List.append_assoc]
    refine List.Perm.append_left _ ?_
    exact List.Perm.trans List.perm_append_comm (modify_msgs_perm mods h.out)
  | expire now =>
    obtain ⟨out', ds, he, _, hp, _⟩ := expire_turn h now
    simp only [he, held, ackedBy, postedBy, List.append_nil, List.append_assoc]
    refine List.Perm.append_left _ (List.perm_append_comm.trans ?_)
    rw [← List.map_append]
    exact hp.map _
  | deleteBegin => simp [SubState.turn, held, ackedBy, postedBy]
  | deleteEnd => exact absurd rfl ht
  | getStats => simp [SubState.turn, held, ackedBy, postedBy]
  | getInfo => simp [SubState.turn, held, ackedBy, postedBy]

def SubState.exec (s : SubState) : List SubTurn → SubState
  | [] => s
  | t :: ts => ((s.turn t).1).exec ts

def postedIn (ts : List SubTurn) : List Msg := ts.flatMap postedBy

def ackedIn (s : SubState) : List SubTurn → List Msg
  | [] => []
  | t :: ts => ackedBy s t ++ ackedIn (s.turn t).1 ts

def NoDelete (ts : List SubTurn) : Prop := ∀ t ∈ ts, t ≠ .deleteBegin ∧ t ≠ .deleteEnd

theorem postedIn_cons (t : SubTurn) (ts : List SubTurn) : postedIn (t :: ts) = postedBy t ++ postedIn ts :=
  List.flatMap_cons

theorem noDelete_prefix {p ts : List SubTurn} (hp : p <+: ts) (hn : NoDelete ts) : NoDelete p :=
  fun t ht => hn t (hp.subset ht)

theorem postedIn_prefix {p ts : List SubTurn} (hp : p <+: ts) : postedIn p <+: postedIn ts := by
  obtain ⟨z, rfl⟩ := hp
  exact ⟨postedIn z, List.flatMap_append.symm⟩

theorem exec_induction {P : SubState → Prop} {ts : List SubTurn} (hstep : ∀ s, ∀ t ∈ ts, P s → P (s.turn t).1)
    {s : SubState} (h0 : P s) : P (s.exec ts) := by
  induction ts generalizing s with
  | nil => exact h0
  | cons t ts ih =>
    exact ih (fun s u hu => hstep s u (List.mem_cons_of_mem _ hu)) (hstep s t List.mem_cons_self h0)

theorem SubInv_exec {s : SubState} (h : SubInv s) (ts : List SubTurn) : SubInv (s.exec ts) :=
  exec_induction (P := SubInv) (fun _ t _ h => SubInv_turn h t) h

theorem exec_append (s : SubState) (ts us : List SubTurn) : s.exec (ts ++ us) = (s.exec ts).exec us := by
  induction ts generalizing s with
  | nil => rfl
  | cons t ts ih => simp [SubState.exec, ih]

theorem exec_deleted {s : SubState} (ts : List SubTurn) (hn : NoDelete ts) : (s.exec ts).deleted = s.deleted :=
  exec_induction (P := fun s' => s'.deleted = s.deleted) (fun _ t ht h => (turn_deleted t (hn t ht).1).trans h) rfl

theorem nextAck_mono_exec (s : SubState) (ts : List SubTurn) : s.nextAck ≤ (s.exec ts).nextAck :=
  exec_induction (P := fun s' => s.nextAck ≤ s'.nextAck) (fun s' t _ h => Nat.le_trans h (nextAck_mono s' t)) (Nat.le_refl _)

theorem exec_conserve {s : SubState} (h : SubInv s) (hd : s.deleted = false) (ts : List SubTurn) (hn : NoDelete ts) :
    (held (s.exec ts) ++ ackedIn s ts).Perm (held s ++ postedIn ts) := by
  induction ts generalizing s with
  | nil => simp [SubState.exec, ackedIn, postedIn]
  | cons t ts ih =>
    have ht := hn t List.mem_cons_self
    have ih' := ih (SubInv_turn h t) ((turn_deleted t ht.1).trans hd) fun u hu => hn u (List.mem_cons_of_mem _ hu)
    rw [SubState.exec, ackedIn, postedIn_cons, ← List.append_assoc (held s)]
    -- move what `t` acknowledged to the front, use the rest of the run, then conservation by `t`
    exact (List.perm_append_comm_assoc _ _ _).trans <| (ih'.append_left _).trans <|
      (List.perm_append_comm_assoc _ _ _).trans <| by
        rw [← List.append_assoc]
        exact (turn_conserve h hd t ht.2).append_right _

end Deltio
