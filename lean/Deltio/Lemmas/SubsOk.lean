import Deltio.Lemmas.SysStep
import Deltio.Lemmas.SubTurn
/- `SubsAll_all`: control-plane edits add fresh subscriptions or remove some, the data plane takes non-deleting turns (`apply_factor`). -/
namespace Deltio

/-- A predicate on actor states that holds initially and that every non-deleting turn preserves. -/
structure TurnStable (P : SubState → Prop) : Prop where
  init : ∀ dl, 0 < dl → P (SubState.init dl)
  step : ∀ s t, P s → t ≠ .deleteBegin → t ≠ .deleteEnd → P (s.turn t).1

def SubsAll (P : SubState → Prop) (sys : Sys) : Prop := ∀ e ∈ sys.subs, P e.st

theorem SubsAll_stateOf {P : SubState → Prop} {sys : Sys} (h : SubsAll P sys) {sid : Nat} {st : SubState}
    (hs : sys.stateOf sid = some st) : P st := by
  obtain ⟨e, he, rfl⟩ := find_of_stateOf hs
  exact h e (List.mem_of_find?_eq_some he)

section
variable {P : SubState → Prop} (hP : TurnStable P)
include hP

theorem Sys.Data.subsAll {A : Nat → Prop} {T : Nat} {a b : Sys} (h : Sys.Data A T a b) (ha : SubsAll P a) : SubsAll P b := by
  induction h with
  | refl => exact ha
  | turn t _ _ hf h1 h2 ih =>
    intro e he
    simp only [Sys.setSubState, List.mem_map] at he
    obtain ⟨x, hx, rfl⟩ := he
    split
    · exact hP.step _ t (ih _ (List.mem_of_find?_eq_some hf)) h1 h2
    · exact ih x hx
  | streams ss _ _ ih => exact ih
  | clock c _ _ _ ih => exact ih

omit hP in
theorem SubsAll_init : SubsAll P Sys.init := by intro e he; simp [Sys.init] at he

theorem SubsAll_apply {sys : Sys} (h : SubsAll P sys) (op : SysOp) : SubsAll P (sys.apply op) := by
  obtain ⟨mid, hc, hd⟩ := apply_factor sys op
  refine hd.subsAll hP ?_
  cases hc with
  | none | createTopic | deleteTopic | publish | streams => exact h
  | deleteSub => exact fun e he => h e (List.mem_filter.mp he).1
  | @createSub _ _ ack =>
    intro e he
    simp only [List.mem_append, List.mem_singleton] at he
    rcases he with he | rfl
    · exact h e he
    · exact hP.init _ (effAck_pos ack)

/-- In every state reached from the empty system by any sequence of requests, stream operations
    and time advances, every registered subscription satisfies `P`. -/
theorem SubsAll_all (ops : List SysOp) : SubsAll P (Sys.init.execOps ops) :=
  execOps_ind (P := SubsAll P) (fun _ op h => SubsAll_apply hP h op) ops _ SubsAll_init

end

theorem okStable : TurnStable (fun st => SubInv st ∧ st.deleted = false) :=
  ⟨fun dl _ => ⟨SubInv_init dl, rfl⟩,
   fun _ t h ht _ => ⟨SubInv_turn h.1 t, by rw [turn_deleted t ht]; exact h.2⟩⟩

def SubsOk (sys : Sys) : Prop := SubsAll (fun st => SubInv st ∧ st.deleted = false) sys

theorem Sys.Data.subsOk {A : Nat → Prop} {T : Nat} {a b : Sys} (h : Sys.Data A T a b) (ha : SubsOk a) : SubsOk b :=
  h.subsAll okStable ha
theorem SubsOk_rpc {sys : Sys} (h : SubsOk sys) (r : Req) : SubsOk (sys.rpc r).1 := SubsAll_apply okStable h (.rpc r)
theorem SubsOk_apply {sys : Sys} (h : SubsOk sys) (op : SysOp) : SubsOk (sys.apply op) := SubsAll_apply okStable h op

/-- In every state reached from the empty system by any sequence of requests, stream operations
    and time advances, every registered subscription satisfies the actor invariant (its tracker's
    two structures agree, ack ids are below the counter) and is not marked deleted. -/
theorem SubsOk_all (ops : List SysOp) : SubsOk (Sys.init.execOps ops) := SubsAll_all okStable ops

/-- The actor states that arise from a fresh subscription by some sequence of non-deleting turns. -/
def IsTurnRun (st : SubState) : Prop := ∃ dl ts, NoDelete ts ∧ st = (SubState.init dl).exec ts

theorem runStable : TurnStable IsTurnRun := by
  constructor
  · intro dl _; exact ⟨dl, [], (by intro t ht; cases ht), rfl⟩
  · intro s t ⟨dl, ts, hn, hs⟩ h1 h2
    refine ⟨dl, ts ++ [t], ?_, ?_⟩
    · intro x hx
      simp only [List.mem_append, List.mem_singleton] at hx
      rcases hx with hx | rfl
      · exact hn x hx
      · exact ⟨h1, h2⟩
    · rw [exec_append, ← hs]; rfl

/-- Bridge from the system to the actor theorems: after ANY history of requests, stream
    operations and time advances, the state of every registered subscription is the result of some
    sequence of non-deleting actor turns from a fresh subscription. Every L1 theorem — they
    quantify over all such turn sequences (C01 conservation, C02 finality, C03 leases, C04 deadlines,
    C05 modifications, C08 order) — therefore holds of every subscription in every reachable
    state of the system model, concurrent consumers or not. -/
theorem Sys_subs_are_turn_runs (ops : List SysOp) : ∀ e ∈ (Sys.init.execOps ops).subs, IsTurnRun e.st :=
  SubsAll_all runStable ops

end Deltio
