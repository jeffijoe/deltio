import Deltio.Lemmas.Tracker
import Deltio.Model.SubActor
namespace Deltio

def dummyMsg : Msg := ⟨0, [], [], 0⟩

/-- The deliveries a pull hands out for the backlog messages `ms`. -/
def mkDelivs (dl na : Nat) : List Msg → List Deliv
  | [] => []
  | m :: rest => { ack := na, msg := m, deadline := dl } :: mkDelivs dl (na + 1) rest

@[simp] theorem mkDelivs_length (dl na : Nat) (ms : List Msg) : (mkDelivs dl na ms).length = ms.length := by
  induction ms generalizing na with
  | nil => rfl
  | cons m rest ih => simp [mkDelivs, ih]

@[simp] theorem mkDelivs_msgs (dl na : Nat) (ms : List Msg) : (mkDelivs dl na ms).map (·.msg) = ms := by
  induction ms generalizing na with
  | nil => rfl
  | cons m rest ih => simp [mkDelivs, ih]

theorem mem_mkDelivs {dl na : Nat} {ms : List Msg} {d : Deliv} (h : d ∈ mkDelivs dl na ms) :
    na ≤ d.ack ∧ d.ack < na + ms.length ∧ d.deadline = dl ∧ d.msg ∈ ms := by
  induction ms generalizing na with
  | nil => simp [mkDelivs] at h
  | cons m rest ih =>
    simp only [mkDelivs, List.mem_cons] at h
    rcases h with rfl | h
    · simp
    · have := ih h
      simp only [List.length_cons, List.mem_cons]
      refine ⟨by omega, by omega, this.2.2.1, Or.inr this.2.2.2⟩

theorem mkDelivs_acks_nodup (dl na : Nat) (ms : List Msg) : ((mkDelivs dl na ms).map (·.ack)).Nodup := by
  induction ms generalizing na with
  | nil => simp [mkDelivs]
  | cons m rest ih =>
    simp only [mkDelivs, List.map_cons, List.nodup_cons]
    refine ⟨?_, ih (na + 1)⟩
    intro hmem
    obtain ⟨d, hd, hda⟩ := List.mem_map.mp hmem
    have := (mem_mkDelivs hd).1
    omega

/-- Closed form of the pull loop: with `k = max (cap - res.length) 1` the room left in the response, it hands out
    `bl.take k` with consecutive ack ids from `na`. -/
theorem pullLoop_closed (cap dl : Nat) (bl : List Msg) (na : Nat) (out : Tracker) (res : List Deliv) :
    pullLoop cap dl bl na out res =
      (bl.drop (max (cap - res.length) 1), na + min (max (cap - res.length) 1) bl.length,
       (mkDelivs dl na (bl.take (max (cap - res.length) 1))).foldl Tracker.add out,
       res ++ mkDelivs dl na (bl.take (max (cap - res.length) 1))) := by
  induction bl generalizing na out res with
  | nil => simp [pullLoop, mkDelivs]
  | cons m rest ih =>
    simp only [pullLoop, List.length_append, List.length_singleton]
    split
    · have hk : max (cap - res.length) 1 = 1 := Nat.max_eq_right (Nat.sub_le_iff_le_add'.mpr ‹_›)
      simp [hk, mkDelivs]
    · have hk : max (cap - res.length) 1 = max (cap - (res.length + 1)) 1 + 1 := by omega
      rw [ih, hk]
      simp [mkDelivs, Nat.add_assoc, Nat.add_comm 1, Nat.add_min_add_right]

theorem foldl_add (dl : Nat) : ∀ (ms : List Msg) (na : Nat) (t : Tracker), t.Inv → (∀ x ∈ t.msgs, x.ack < na) →
    ((mkDelivs dl na ms).foldl Tracker.add t).Inv ∧
    ((mkDelivs dl na ms).foldl Tracker.add t).msgs = t.msgs ++ mkDelivs dl na ms := by
  intro ms
  induction ms with
  | nil => intro na t h _; simp [mkDelivs, h]
  | cons m rest ih =>
    intro na t h hlt
    obtain ⟨hinv, hm⟩ := add_spec h { ack := na, msg := m, deadline := dl } fun x hx => Nat.ne_of_lt (hlt x hx)
    obtain ⟨h1, h2⟩ := ih (na + 1) _ hinv fun x hx => by
      rcases List.mem_append.mp (hm ▸ hx) with hx | hx
      · exact Nat.lt_succ_of_lt (hlt x hx)
      · rw [List.mem_singleton.mp hx]; exact Nat.lt_succ_self _
    exact ⟨h1, by rw [mkDelivs, List.foldl_cons, h2, hm, List.append_assoc]; rfl⟩

end Deltio
