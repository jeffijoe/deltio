import Deltio.Lemmas.SubRun
/-
  `D` = ids delivered so far, `F` = the sequence of FIRST deliveries so far, `posted` = the ids posted so far.
  A pull moves a prefix of the not yet delivered part of the backlog to the end of `F`, which keeps `chain`.
-/
namespace Deltio

/-- The not-yet-delivered part of the backlog, in queue order. -/
def freshOf (D : List Nat) (bl : List Msg) : List Nat := (bl.map (·.id)).filter (fun i => !D.contains i)

theorem freshOf_append (D : List Nat) (a b : List Msg) : freshOf D (a ++ b) = freshOf D a ++ freshOf D b := by
  simp [freshOf]

theorem freshOf_of_delivered (D : List Nat) (ms : List Msg) (h : ∀ m ∈ ms, m.id ∈ D) : freshOf D ms = [] := by
  simp only [freshOf, List.filter_eq_nil_iff, List.mem_map]
  rintro i ⟨m, hm, rfl⟩
  simp [h m hm]

/-- `chain` is the claim. `outD` makes a re-queue (nack, expiry) add nothing fresh, `sub` makes a posted id fresh, `nodup`
    keeps what a pull leaves queued apart from what it took. -/
structure OrderInv (s : SubState) (D F posted : List Nat) : Prop where
  outD : ∀ d ∈ s.out.msgs, d.msg.id ∈ D
  chain : F ++ freshOf D s.backlog = posted
  sub : ∀ i ∈ D, i ∈ posted
  nodup : ((held s).map (·.id)).Nodup

namespace OrderInv

theorem held_sub {s : SubState} {D F posted : List Nat} (h : OrderInv s D F posted) :
    ∀ m ∈ held s, m.id ∈ posted := by
  intro m hm
  rcases List.mem_append.mp hm with hm | hm
  · by_cases hD : m.id ∈ D
    · exact h.sub _ hD
    · rw [← h.chain]
      exact List.mem_append_right _ (List.mem_filter.mpr ⟨List.mem_map_of_mem hm, by simpa using hD⟩)
  · obtain ⟨d, hd, rfl⟩ := List.mem_map.mp hm
    exact h.sub _ (h.outD d hd)

/-- Re-queueing already delivered messages (nack, expiry) at the back changes nothing fresh. -/
theorem requeue {s : SubState} {D F posted : List Nat} (h : OrderInv s D F posted) (s' : SubState)
    (re : List Msg) (hre : ∀ m ∈ re, m.id ∈ D) (hbl : s'.backlog = s.backlog ++ re)
    (hout : ∀ d ∈ s'.out.msgs, d.msg.id ∈ D) (hnd : ((held s').map (·.id)).Nodup) : OrderInv s' D F posted :=
  ⟨hout, by rw [hbl, freshOf_append, freshOf_of_delivered D re hre, List.append_nil]; exact h.chain, h.sub, hnd⟩

theorem post {s : SubState} {D F posted : List Nat} (h : OrderInv s D F posted) (hs : SubInv s)
    (hd : s.deleted = false) (ms : List Msg) (hnd : (posted ++ ms.map (·.id)).Nodup) :
    OrderInv (s.turn (.post ms)).1 D F (posted ++ ms.map (·.id)) := by
  have hdisj := (List.nodup_append.mp hnd).2.2
  have hfm : freshOf D ms = ms.map (·.id) :=
    List.filter_eq_self.mpr fun i hi => by simpa using fun hD => hdisj i (h.sub i hD) i hi rfl
  have hnd' := held_nodup_turn hs hd (.post ms) (by simp) (by
    rw [postedBy, List.map_append]
    refine List.nodup_append.mpr ⟨h.nodup, (List.nodup_append.mp hnd).2.1, fun a ha b hb => ?_⟩
    obtain ⟨m, hm, rfl⟩ := List.mem_map.mp ha
    exact hdisj _ (h.held_sub m hm) b hb)
  simp only [SubState.turn, hd, Bool.false_eq_true, ↓reduceIte] at hnd' ⊢
  exact ⟨h.outD, by rw [freshOf_append, hfm, ← List.append_assoc, h.chain], fun i hi => List.mem_append_left _ (h.sub i hi), hnd'⟩

theorem pull {s : SubState} {D F posted : List Nat} (h : OrderInv s D F posted) (hs : SubInv s)
    (hd : s.deleted = false) (max16 now : Nat) :
    let taken := ((s.turn (.pull max16 now)).2.delivered.map (·.msg.id))
    OrderInv (s.turn (.pull max16 now)).1 (D ++ taken) (F ++ taken.filter (fun i => !D.contains i)) posted := by
  intro taken
  have hfifo := pull_fifo s max16 now hd
  have htaken : taken = ((s.turn (.pull max16 now)).2.delivered.map (·.msg)).map (·.id) := by simp [taken]
  -- ids still queued were not taken: ids in the backlog are distinct
  have hblnd : (s.backlog.map (·.id)).Nodup := (List.nodup_append.mp (List.map_append ▸ h.nodup)).1
  rw [← hfifo, List.map_append, ← htaken] at hblnd
  have hfdrop : freshOf (D ++ taken) (s.turn (.pull max16 now)).1.backlog = freshOf D (s.turn (.pull max16 now)).1.backlog :=
    List.filter_congr fun i hi => by
      have : i ∉ taken := fun ht => (List.nodup_append.mp hblnd).2.2 i ht i hi rfl
      simp [this]
  refine ⟨fun d hdm => ?_, ?_, fun i hi => ?_, held_nodup_turn hs hd _ (by simp) (by simpa [postedBy] using h.nodup)⟩
  · rw [(pull_out hs hd max16 now).2] at hdm
    exact List.mem_append.mpr ((List.mem_append.mp hdm).imp (h.outD d) fun hdm => List.mem_map_of_mem hdm)
  · rw [hfdrop, List.append_assoc, ← h.chain, ← hfifo, freshOf_append, htaken]; rfl
  · rcases List.mem_append.mp hi with hi | hi
    · exact h.sub i hi
    · obtain ⟨m, hm, rfl⟩ := List.mem_map.mp (htaken ▸ hi)
      exact h.held_sub m (List.mem_append_left _ (hfifo ▸ List.mem_append_left _ hm))

/-- Ack, modify (extend or nack), expiry: nothing fresh is touched. -/
theorem other {s : SubState} {D F posted : List Nat} (h : OrderInv s D F posted) (hs : SubInv s) (hd : s.deleted = false)
    (t : SubTurn) (ht : (∃ ids, t = .ack ids) ∨ (∃ mods, t = .modify mods) ∨ (∃ now, t = .expire now)) :
    OrderInv (s.turn t).1 D F posted := by
  have hnd' : ((held (s.turn t).1).map (·.id)).Nodup := by
    have hp : t ≠ .deleteEnd ∧ postedBy t = [] := by
      rcases ht with ⟨_, rfl⟩ | ⟨_, rfl⟩ | ⟨_, rfl⟩ <;> exact ⟨nofun, rfl⟩
    exact held_nodup_turn hs hd t hp.1 (by rw [hp.2, List.append_nil]; exact h.nodup)
  rcases ht with ⟨ids, rfl⟩ | ⟨mods, rfl⟩ | ⟨now, rfl⟩
  · refine h.requeue _ [] (by simp) (by simp [SubState.turn, hd]) (fun d hdm => ?_) hnd'
    simp only [SubState.turn, hd, Bool.false_eq_true, ↓reduceIte] at hdm
    exact h.outD d ((mem_remove_msgs ids s.out d).mp hdm).1
  · have hp := modify_msgs_perm mods hs.out
    refine h.requeue _ ((s.out.modify mods).2.map (·.msg)) (fun m hm => ?_) (by simp [SubState.turn, hd]) (fun d hdm => ?_) hnd'
    · obtain ⟨d, hdm, rfl⟩ := List.mem_map.mp (hp.mem_iff.mp (List.mem_append_right _ hm))
      exact h.outD d hdm
    · simp only [SubState.turn, hd, Bool.false_eq_true, ↓reduceIte] at hdm
      obtain ⟨d0, hd0, he⟩ := List.mem_map.mp (hp.mem_iff.mp (List.mem_append_left _ (List.mem_map_of_mem hdm)))
      rw [← he]; exact h.outD d0 hd0
  · obtain ⟨out', ds, he, _, _, h3, h4, _⟩ := expire_turn hs now
    rw [he] at hnd' ⊢
    refine h.requeue _ (ds.map (·.msg)) (fun m hm => ?_) rfl (fun d hd => h.outD d ((h4 d).mp hd).1) hnd'
    obtain ⟨d, hd, rfl⟩ := List.mem_map.mp hm
    exact h.outD d ((h3 d).mp hd).1

end OrderInv

end Deltio
