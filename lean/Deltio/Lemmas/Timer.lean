import Deltio.Lemmas.SubClock
import Deltio.Lemmas.SubsOk
import Deltio.Lemmas.SysInv
import Deltio.Lemmas.SysSub
/-
  The timer loop `Sys.advanceTo`: one firing takes a delivery out of a tracker, so a fuel of the number of
  outstanding deliveries lets it run to completion.
-/
namespace Deltio

/-- Through the timer loop (no StreamingPull open) a waiting subscription is still in the state `st0` it
    waited in, or messages are queued on it. -/
theorem advanceTo_untouched_or_queued (frac sid : Nat) (st0 : SubState) (fuel target : Nat) (sys : Sys) (hs : sys.streams = [])
    (hj : ∃ st, sys.stateOf sid = some st ∧ (st = st0 ∨ st.backlog ≠ [])) :
    ∃ st, (Sys.advanceTo frac fuel target sys).stateOf sid = some st ∧ (st = st0 ∨ st.backlog ≠ []) := by
  refine (advanceTo_ind (P := fun s => s.streams = [] ∧ ∃ st, s.stateOf sid = some st ∧ (st = st0 ∨ st.backlog ≠ []))
    frac target ?_ (fun _ _ h _ _ => h) fuel sys ⟨hs, hj⟩).2
  intro s x ⟨hs, st, hst, hor⟩
  rw [touch_nostreams hs]
  refine ⟨by rw [subExpire_streams]; exact hs, ?_⟩
  by_cases hx : sid = x
  · subst hx
    refine ⟨_, subExpire_self hst, ?_⟩
    rcases expire_same_or_nonempty st s.clock with h1 | h1
    · rw [h1]; exact hor
    · exact Or.inr h1
  · exact ⟨st, by rw [(subExpire_data _ x).other hx]; exact hst, hor⟩

/-- What `nextTimer` answers: nothing when no timer is armed, else tick and owner of an armed timer with none earlier. -/
def Sys.timerIs (l : List SubEnt) : Option (Nat × Nat) → Prop
  | none => ∀ e ∈ l, e.st.out.nextExpiration = none
  | some (t, x) => (∃ e ∈ l, e.sid = x ∧ ∃ d, e.st.out.nextExpiration = some d ∧ ceilMs d = t) ∧
      ∀ e ∈ l, ∀ d, e.st.out.nextExpiration = some d → t ≤ ceilMs d

theorem nextTimer_spec (sys : Sys) : Sys.timerIs sys.subs sys.nextTimer := by
  refine foldl_inv (Q := fun best pre => Sys.timerIs pre best) ?_ sys.subs [] none (fun _ h => nomatch h)
  intro best pre e h
  -- the new entry's timer takes over when it undercuts every armed timer read so far
  have hnew : ∀ d, e.st.out.nextExpiration = some d → (∀ e' ∈ pre, ∀ d', e'.st.out.nextExpiration = some d' → ceilMs d ≤ ceilMs d') →
      Sys.timerIs (pre ++ [e]) (some (ceilMs d, e.sid)) := fun d hd hle =>
    ⟨⟨e, List.mem_append_right _ (List.mem_singleton_self e), rfl, d, hd, rfl⟩,
      List.forall_mem_append.mpr ⟨hle, List.forall_mem_singleton.mpr fun d' hd' => by cases hd.symm.trans hd'; exact Nat.le_refl _⟩⟩
  dsimp only
  cases hn : e.st.out.nextExpiration with
  | none =>
    cases best with
    | none => exact List.forall_mem_append.mpr ⟨h, List.forall_mem_singleton.mpr hn⟩
    | some b =>
      obtain ⟨⟨e0, he0, h0⟩, hmin⟩ := h
      exact ⟨⟨e0, List.mem_append_left _ he0, h0⟩, List.forall_mem_append.mpr ⟨hmin, List.forall_mem_singleton.mpr fun d hd => by cases hn.symm.trans hd⟩⟩
  | some d =>
    cases best with
    | none => exact hnew d hn fun e' he' d' hd' => by cases (h e' he').symm.trans hd'
    | some b =>
      obtain ⟨⟨e0, he0, h0⟩, hmin⟩ := h
      dsimp only
      split
      · rename_i hlt
        exact hnew d hn fun e' he' d' hd' => Nat.le_trans (Nat.le_of_lt hlt) (hmin e' he' d' hd')
      · rename_i hlt
        exact ⟨⟨e0, List.mem_append_left _ he0, h0⟩, List.forall_mem_append.mpr ⟨hmin, List.forall_mem_singleton.mpr fun d' hd' => by
          cases hn.symm.trans hd'; exact Nat.le_of_not_lt hlt⟩⟩

def Sys.totalOut (sys : Sys) : Nat := (sys.subs.map (fun e => e.st.out.msgs.length)).sum

theorem sum_set : ∀ (l : List SubEnt), (l.map (·.sid)).Nodup → ∀ (e : SubEnt) (st : SubState), e ∈ l →
    ((l.map (fun x => if x.sid == e.sid then { x with st := st } else x)).map (fun x => x.st.out.msgs.length)).sum
      + e.st.out.msgs.length = (l.map (fun x => x.st.out.msgs.length)).sum + st.out.msgs.length := by
  intro l
  induction l with
  | nil => intro _ e st he; cases he
  | cons y ys ih =>
    intro hu e st he
    simp only [List.map_cons, List.nodup_cons] at hu
    simp only [List.map_cons, List.sum_cons]
    rcases List.mem_cons.mp he with rfl | he
    · have hid : ys.map (fun x => if x.sid == e.sid then { x with st := st } else x) = ys := by
        conv => rhs; rw [← List.map_id ys]
        apply List.map_congr_left
        intro x hx
        have : x.sid ≠ e.sid := fun hc => hu.1 (hc ▸ List.mem_map_of_mem hx)
        simp [this]
      simp only [beq_self_eq_true, ↓reduceIte, hid]
      omega
    · have hne : y.sid ≠ e.sid := fun hc => hu.1 (hc ▸ List.mem_map_of_mem he)
      have := ih hu.2 e st he
      simp only [beq_eq_false_iff_ne.mpr hne, Bool.false_eq_true, ↓reduceIte]
      omega

def SidsUnique (sys : Sys) : Prop := (sys.subs.map (·.sid)).Nodup

theorem SidsUnique_of_skel {a b : Sys} (h : b.skel = a.skel) (ha : SidsUnique a) : SidsUnique b := by
  unfold SidsUnique; rw [sids_of_skel h]; exact ha

theorem SidsUnique_of_SysInv {sys : Sys} (h : SysInv sys) : SidsUnique sys := h.keys.2.2.2.imp Nat.ne_of_lt

theorem totalOut_setSubState {sys : Sys} (hu : SidsUnique sys) {e : SubEnt} (he : e ∈ sys.subs) (st : SubState) :
    (sys.setSubState e.sid st).totalOut + e.st.out.msgs.length = sys.totalOut + st.out.msgs.length :=
  sum_set sys.subs hu e st he

theorem empty_pull_totalOut {sys : Sys} (hok : SubsOk sys) (hu : SidsUnique sys) {e : SubEnt} (he : e ∈ sys.subs) {m16 : Nat}
    (hd : (sys.subTurn e.sid (.pull m16 sys.clock)).2.delivered = []) :
    (sys.subTurn e.sid (.pull m16 sys.clock)).1.totalOut ≤ sys.totalOut := by
  have hfind : sys.findSubById e.sid = some e := find?_key_of_nodup hu he
  have h2 := (expire_lengths (SubInv_turn (hok e he).1 (.pull m16 sys.clock)) sys.clock).2.1
  simp only [Sys.subTurn, hfind] at hd ⊢
  rw [pull_empty_keeps_out e.st _ _ hd] at h2
  have := totalOut_setSubState hu he ((e.st.turn (.pull m16 sys.clock)).1.turn (.expire sys.clock)).1
  omega

theorem fire_decreases {sys : Sys} (hs : sys.streams = []) (hok : SubsOk sys) (hu : SidsUnique sys) {t x : Nat}
    (hnt : sys.nextTimer = some (t, x)) {c : Nat} (hc : t ≤ c) :
    (({ sys with clock := c } : Sys).touch x).streams = [] ∧ SubsOk (({ sys with clock := c } : Sys).touch x) ∧
      SidsUnique (({ sys with clock := c } : Sys).touch x) ∧ (({ sys with clock := c } : Sys).touch x).totalOut < sys.totalOut := by
  have hd := subExpire_data ({ sys with clock := c } : Sys) x
  rw [touch_nostreams (sys := { sys with clock := c }) hs]
  refine ⟨by rw [subExpire_streams]; exact hs, hd.subsOk hok, SidsUnique_of_skel hd.skel hu, ?_⟩
  obtain ⟨⟨e, he, rfl, d, hn, rfl⟩, _⟩ : Sys.timerIs sys.subs (some (t, x)) := hnt ▸ nextTimer_spec sys
  have hfind : ({ sys with clock := c } : Sys).findSubById e.sid = some e := find?_key_of_nodup hu he
  have hdec := (expire_lengths (hok e he).1 c).2.2 d hn (Nat.le_trans (ceilMs_ge d) hc)
  have := totalOut_setSubState hu he (e.st.turn (.expire c)).1
  simp only [Sys.subExpire, hfind]
  show (sys.setSubState e.sid _).totalOut < _
  omega

/-- The timer loop has run to completion: no armed timer is due at or before `target`. -/
def Sys.settled (frac target : Nat) (sys : Sys) : Prop := ∀ t x, sys.nextTimer = some (t, x) → target < t + frac

/-- With no StreamingPull open, a fuel of at least the number of outstanding deliveries lets the
    timer loop run to completion (`fire_decreases`). -/
theorem advanceTo_settled (frac : Nat) : ∀ (fuel target : Nat) (sys : Sys), sys.streams = [] → SubsOk sys → SidsUnique sys →
    sys.totalOut ≤ fuel → Sys.settled frac target (Sys.advanceTo frac fuel target sys) := by
  intro fuel
  induction fuel with
  | zero =>
    intro target sys hs hok hu hz t x hnt
    have := (fire_decreases hs hok hu hnt (Nat.le_refl t)).2.2.2
    omega
  | succ n ih =>
    intro target sys hs hok hu hle
    unfold Sys.advanceTo
    split
    · rename_i t x hnt
      split
      · obtain ⟨h1, h2, h3, h4⟩ := fire_decreases hs hok hu hnt (Nat.le_trans (Nat.le_add_right t frac) (Nat.le_max_right sys.clock _))
        exact ih target _ h1 h2 h3 (Nat.le_of_lt_succ (Nat.lt_of_lt_of_le h4 hle))
      · rename_i hlate
        intro t' x' hnt'
        cases hnt.symm.trans hnt'
        exact Nat.lt_of_not_le hlate
    · rename_i hnt
      intro t' x' hnt'
      cases hnt.symm.trans hnt'

theorem settled_armed {sys : Sys} {frac target : Nat} (hset : Sys.settled frac target sys) :
    SubsAll (fun st => ∀ d, st.out.nextExpiration = some d → target < ceilMs d + frac) sys := by
  intro e he d hn
  have hspec := nextTimer_spec sys
  cases hnt : sys.nextTimer with
  | none =>
    rw [hnt] at hspec
    cases (hspec e he).symm.trans hn
  | some tx =>
    rw [hnt] at hspec
    have h1 := hset tx.1 tx.2 hnt
    have h2 := hspec.2 e he d hn
    omega

/-- Settled: no outstanding delivery is overdue by a whole timer tick. -/
theorem settled_not_late {sys : Sys} (hok : SubsOk sys) {frac target : Nat} (hset : Sys.settled frac target sys) :
    ∀ e ∈ sys.subs, ∀ dv ∈ e.st.out.msgs, target < ceilMs dv.deadline + frac := by
  intro e he dv hdv
  obtain ⟨d0, hn, hle⟩ := nextExpiration_le (hok e he).1.out dv hdv
  have h1 := settled_armed hset e he d0 hn
  have h2 := ceilMs_mono hle
  omega

theorem subTurn_pull_nonempty {sys : Sys} (hok : SubsOk sys) {sid : Nat} (hb : sys.backlogNonEmpty sid = true) (m16 now : Nat) :
    (sys.subTurn sid (.pull m16 now)).2.delivered ≠ [] := by
  unfold Sys.backlogNonEmpty at hb
  split at hb
  · cases hb
  · rename_i e he
    rw [subTurn_out (stateOf_of_find he)]
    exact pull_nonempty e.st _ _ (hok e (List.mem_of_find?_eq_some he)).2 (by simpa using hb)

/-- The wait of a blocking Pull. The state of `sid` is unchanged until an expiry turn queues something
    (`advanceTo_untouched_or_queued`), and unchanged it cannot be, its timer being armed and due (`advanceTo_settled`). -/
theorem advanceTo_wakes {sys : Sys} {frac fuel target sid d : Nat} {e : SubEnt} (hs : sys.streams = []) (hok : SubsOk sys)
    (hu : SidsUnique sys) (hfuel : sys.totalOut ≤ fuel) (he : sys.findSubById sid = some e)
    (hn : e.st.out.nextExpiration = some d) (hle : ceilMs d + frac ≤ target) :
    (Sys.advanceTo frac fuel target sys).backlogNonEmpty sid = true := by
  obtain ⟨st2, hst2, hor⟩ := advanceTo_untouched_or_queued frac sid e.st fuel target sys hs ⟨e.st, stateOf_of_find he, Or.inl rfl⟩
  obtain ⟨e2, he2, rfl⟩ := find_of_stateOf hst2
  unfold Sys.backlogNonEmpty
  rw [he2]
  rcases hor with h | h
  · have := SubsAll_stateOf (settled_armed (advanceTo_settled frac fuel target sys hs hok hu hfuel)) hst2 d (h ▸ hn)
    omega
  · simpa using h

end Deltio
