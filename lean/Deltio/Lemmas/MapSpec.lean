import Deltio.Lemmas.SysStep
/-
  `Spec` is deliberately tiny: the present topic names (in creation order) and, per present subscription
  name, what it was created with and whether the topic it was created on is still there.
-/
namespace Deltio

structure SpecSub where
  topic : Option Name          -- the (live) topic it was created on; `none` once that topic was deleted
  ackSecs : Nat
  push : Option PushCfg
deriving DecidableEq, Repr

structure Spec where
  topics : List Name := []
  subs : List (Name × SpecSub) := []
deriving DecidableEq, Repr

def SpecSub.res (n : Name) (r : SpecSub) : SubRes :=
  { name := displaySub n
    topic := match r.topic with
      | some t => displayTopic t
      | none => deletedTopicStr
    ackSecs := r.ackSecs
    push := r.push }

/-- What a response says, up to the data-plane content (message ids / deliveries). -/
inductive RClass where
  | err (s : Status)
  | empty
  | topic (name : Bytes)
  | names (ns : List Bytes) (next : List Nat)
  | sub (r : SubRes)
  | subs (rs : List SubRes) (next : List Nat)
  | accepted
deriving DecidableEq, Repr

def classOf : Resp → RClass
  | .err s => .err s
  | .empty => .empty
  | .topic n => .topic n
  | .names ns nx => .names ns nx
  | .sub r => .sub r
  | .subs rs nx => .subs rs nx
  | .ids _ => .accepted
  | .msgs _ => .accepted

/-- The specification: each request is ONE atomic operation on the two maps. The order of the
    checks (which field is validated first) is the handlers'. -/
def Spec.apply (s : Spec) : Req → Spec × RClass
  | .createTopic raw =>
    match parseTopicName raw with
    | none => (s, .err .invalidArgument)
    | some n =>
      if s.topics.contains n then (s, .err .alreadyExists)
      else ({ s with topics := s.topics ++ [n] }, .topic (displayTopic n))
  | .getTopic raw =>
    match parseTopicName raw with
    | none => (s, .err .invalidArgument)
    | some n => if s.topics.contains n then (s, .topic (displayTopic n)) else (s, .err .notFound)
  | .deleteTopic raw =>
    match parseTopicName raw with
    | none => (s, .err .invalidArgument)
    | some n =>
      if s.topics.contains n then
        ({ topics := s.topics.filter (· != n),
           subs := s.subs.map (fun kr => (kr.1, if kr.2.topic == some n then { kr.2 with topic := none } else kr.2)) }, .empty)
      else (s, .err .notFound)
  | .listTopics project size token =>
    match parsePaging size (bytesToNats token) with
    | none => (s, .err .invalidArgument)
    | some p =>
      match parseProject project with
      | none => (s, .err .invalidArgument)
      | some proj =>
        let pg := Sys.listPage ((s.topics.filter (fun n => n.1 == proj)).map displayTopic) p
        (s, .names pg.1 pg.2)
  | .listTopicSubs raw size token =>
    match parseTopicName raw with
    | none => (s, .err .invalidArgument)
    | some n =>
      match parsePaging size (bytesToNats token) with
      | none => (s, .err .invalidArgument)
      | some p =>
        if s.topics.contains n then
          let pg := Sys.listPage ((s.subs.filter (fun kr => kr.2.topic == some n)).map (fun kr => displaySub kr.1)) p
          (s, .names pg.1 pg.2)
        else (s, .err .notFound)
  | .createSub rawName rawTopic ackSecs push =>
    match parseTopicName rawTopic with
    | none => (s, .err .invalidArgument)
    | some tn =>
      match parseSubName rawName with
      | none => (s, .err .invalidArgument)
      | some sn =>
        let pushParsed : Option (Option PushCfg) := match push with
          | none => some none
          | some p => (parsePushCfg p).map some
        match pushParsed with
        | none => (s, .err .invalidArgument)
        | some pc =>
          if !s.topics.contains tn then (s, .err .notFound)
          else if tn.1 != sn.1 then (s, .err .invalidArgument)
          else match alookup sn s.subs with
            | some _ => (s, .err .alreadyExists)
            | none =>
              let r : SpecSub := { topic := some tn, ackSecs := effAckDeadlineSecs ackSecs, push := pc }
              ({ s with subs := s.subs ++ [(sn, r)] }, .sub (r.res sn))
  | .getSub raw =>
    match parseSubName raw with
    | none => (s, .err .invalidArgument)
    | some n =>
      match alookup n s.subs with
      | none => (s, .err .notFound)
      | some r => (s, .sub (r.res n))
  | .listSubs project size token =>
    match parsePaging size (bytesToNats token) with
    | none => (s, .err .invalidArgument)
    | some p =>
      match parseProject project with
      | none => (s, .err .invalidArgument)
      | some proj =>
        let pg := Sys.listPage (s.subs.filter (fun kr => kr.1.1 == proj)) p
        (s, .subs (pg.1.map (fun kr => kr.2.res kr.1)) pg.2)
  | .deleteSub raw =>
    match parseSubName raw with
    | none => (s, .err .invalidArgument)
    | some n =>
      match alookup n s.subs with
      | none => (s, .err .notFound)
      | some _ => ({ s with subs := s.subs.filter (fun kr => kr.1 != n) }, .empty)
  | .publish raw _ =>
    match parseTopicName raw with
    | none => (s, .err .invalidArgument)
    | some n => if s.topics.contains n then (s, .accepted) else (s, .err .notFound)
  | .pull raw _ _ =>
    match parseSubName raw with
    | none => (s, .err .invalidArgument)
    | some n => if (alookup n s.subs).isSome then (s, .accepted) else (s, .err .notFound)
  | .ack raw ids =>
    match parseAckIds ids with
    | none => (s, .err .invalidArgument)
    | some _ =>
      match parseSubName raw with
      | none => (s, .err .invalidArgument)
      | some n => if (alookup n s.subs).isSome then (s, .empty) else (s, .err .notFound)
  | .modAck raw secs ids =>
    match parseMods 0 ids (ids.map (fun _ => secs)) with
    | none => (s, .err .invalidArgument)
    | some _ =>
      match parseSubName raw with
      | none => (s, .err .invalidArgument)
      | some n => if (alookup n s.subs).isSome then (s, .empty) else (s, .err .notFound)
  | .unimplemented => (s, .err .unimplemented)

/-- The specification run next to a history: requests are applied, everything else (time, stream
    operations) leaves the two maps alone. -/
def Spec.applyOp (s : Spec) : SysOp → Spec
  | .rpc r => (s.apply r).1
  | _ => s

def Spec.run (s : Spec) (ops : List SysOp) : Spec := ops.foldl Spec.applyOp s

def refOf (topics : List TopicEnt) (tid : Nat) : Option Name := (topics.find? (·.tid == tid)).map (·.name)

def specOf (topics : List TopicEnt) (e : SubEnt) : SpecSub :=
  { topic := refOf topics e.topicId, ackSecs := e.ackSecs, push := e.push }

def Sys.abs (sys : Sys) : Spec :=
  { topics := sys.topics.map (·.name), subs := sys.subs.map (fun e => (e.name, specOf sys.topics e)) }

theorem subRes_eq (sys : Sys) (e : SubEnt) : sys.subRes e = (specOf sys.topics e).res e.name := by
  simp only [Sys.subRes, SpecSub.res, specOf, refOf, Sys.findTopicById]
  cases sys.topics.find? (·.tid == e.topicId) <;> rfl

theorem contains_abs (sys : Sys) (n : Name) : sys.abs.topics.contains n = (sys.findTopic n).isSome := by
  rw [Bool.eq_iff_iff, List.contains_iff_mem, Sys.findTopic, List.find?_isSome]
  simp only [Sys.abs, List.mem_map, beq_iff_eq]

theorem findSub_abs (sys : Sys) (n : Name) : alookup n sys.abs.subs = (sys.findSub n).map (specOf sys.topics) := by
  rw [alookup_eq_find?, Sys.abs, List.find?_map, Option.map_map]
  rfl

theorem refOf_eq_alookup (topics : List TopicEnt) (k : Nat) : refOf topics k = alookup k (topics.map (fun t => (t.tid, t.name))) := by
  rw [alookup_eq_find?, List.find?_map, Option.map_map]
  rfl

theorem refOf_congr {ta tb : List TopicEnt} (h : tb.map (fun t => (t.tid, t.name)) = ta.map (fun t => (t.tid, t.name))) (k : Nat) :
    refOf tb k = refOf ta k := by
  rw [refOf_eq_alookup, refOf_eq_alookup, h]

theorem abs_congr {a b : Sys} (ht : b.topics.map (fun t => (t.tid, t.name)) = a.topics.map (fun t => (t.tid, t.name)))
    (hs : b.subs.map (fun e => (e.name, e.topicId, e.ackSecs, e.push)) = a.subs.map (fun e => (e.name, e.topicId, e.ackSecs, e.push))) :
    b.abs = a.abs := by
  have h1 := congrArg (List.map Prod.snd) ht
  have h2 := congrArg (List.map (fun x : Name × Nat × Nat × Option PushCfg =>
    ((x.1, ⟨refOf a.topics x.2.1, x.2.2.1, x.2.2.2⟩) : Name × SpecSub))) hs
  rw [List.map_map, List.map_map] at h1 h2
  unfold Sys.abs
  simp only [specOf, refOf_congr ht]
  exact congr (congrArg Spec.mk h1) h2

/-- What the data plane changes (actor states, streams, clock) is invisible to the specification. -/
theorem abs_of_skel' {a b : Sys} (h : a.skel = b.skel) : a.abs = b.abs :=
  abs_congr (by rw [skel_topics h]) (skel_subs h (·.2))

def Req.edits : Req → Bool
  | .createTopic _ | .deleteTopic _ | .createSub _ _ _ _ | .deleteSub _ => true
  | _ => false

/-- What a request does to the two maps: nothing (`stay`; the only possibility for one that `edits` nothing), or one of four edits. -/
inductive Spec.Edit (s : Spec) : Bool → Spec → Prop
  | stay (b : Bool) : Edit s b s
  | createTopic (n : Name) : Edit s true { s with topics := s.topics ++ [n] }
  | deleteTopic (n : Name) : Edit s true
      { topics := s.topics.filter (· != n),
        subs := s.subs.map (fun kr => (kr.1, if kr.2.topic == some n then { kr.2 with topic := none } else kr.2)) }
  | createSub (n : Name) (e : SpecSub) : Edit s true { s with subs := s.subs ++ [(n, e)] }
  | deleteSub (n : Name) : Edit s true { s with subs := s.subs.filter (fun kr => kr.1 != n) }

-- `backward.split false` selects the newer `split`, which reduces only the `if` it splits; the default one also tries to
-- discharge every `if` nested in the term against every hypothesis, at every split: the same proof, far slower to check here.
set_option backward.split false in
theorem Spec.apply_edit (s : Spec) (r : Req) : s.Edit r.edits (s.apply r).1 := by
  cases r <;> dsimp only [Spec.apply] <;> (repeat' split) <;> constructor

theorem Spec.apply_of_not_edits (s : Spec) (r : Req) (hr : r.edits = false) : (s.apply r).1 = s := by
  have h := s.apply_edit r
  rw [hr] at h
  generalize (s.apply r).1 = s' at h
  cases h
  rfl

/-- Whatever the next request is (including re-creating a topic of the same name), a subscription whose
    reference is `none` keeps `none` for as long as it exists. -/
theorem Spec.Edit.deleted_topic_is_forever {s s' : Spec} {b : Bool} (h : s.Edit b s') {k : Name} {e : SpecSub}
    (hk : alookup k s.subs = some e) (hn : e.topic = none) :
    alookup k s'.subs = none ∨ ∃ e', alookup k s'.subs = some e' ∧ e'.topic = none := by
  cases h with
  | stay | createTopic => exact .inr ⟨e, hk, hn⟩
  | deleteTopic n =>
    refine .inr ⟨_, by rw [alookup_map_val k (fun r : SpecSub => if r.topic == some n then { r with topic := none } else r), hk]; rfl, ?_⟩
    dsimp only
    split
    · rfl
    · exact hn
  | createSub n e' => exact .inr ⟨e, by rw [alookup_append, hk]; rfl, hn⟩
  | deleteSub n =>
    rw [alookup_filter_ne]
    split
    · exact .inl rfl
    · exact .inr ⟨e, hk, hn⟩

end Deltio
