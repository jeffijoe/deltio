import Deltio.Model.System
/- Field parsing of the modify requests (`api/parser.rs`). -/
namespace Deltio

theorem parseExtension_error {n : Int} : parseExtension n = .error ↔ n < 0 := by
  unfold parseExtension
  split
  · simp [*]
  · split
    · simp [*]
    · split <;> simp [*]

/-- No condition on the lengths of the two lists, and `now` plays no part. -/
theorem parseMods_eq_none (now : Nat) : ∀ (ids : List Bytes) (secs : List Int),
    parseMods now ids secs = none ↔ ∃ p ∈ ids.zip secs, parseAckId p.1 = none ∨ p.2 < 0
  | [], _ => by simp [parseMods]
  | _ :: _, [] => by simp [parseMods]
  | b :: bs, n :: ns => by
    rw [parseMods, List.zip_cons_cons]
    simp only [List.mem_cons, exists_eq_or_imp, ← parseMods_eq_none now bs ns, ← @parseExtension_error n]
    cases parseAckId b with
    | none => simp
    | some a => cases parseExtension n <;> simp

theorem parseMods_isSome (now : Nat) (bs : List Bytes) (ns : List Int) :
    (parseMods now bs ns).isSome = (parseMods 0 bs ns).isSome := by
  rw [Bool.eq_iff_iff, Option.isSome_iff_ne_none, Option.isSome_iff_ne_none, Ne, Ne, parseMods_eq_none, parseMods_eq_none]

end Deltio
