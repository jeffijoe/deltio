import Deltio.Proto.Fanout
namespace Deltio.P6

theorem posts_append (l r : List SMsg) : posts (l ++ r) = posts l ++ posts r := by
  induction l with
  | nil => rfl
  | cons m l ih => cases m <;> simp [posts, ih]

@[simp] theorem upd_same {α} (f : Nat → α) (x : Nat) (v : α) : upd f x v x = v := if_pos rfl
theorem upd_other {α} (f : Nat → α) (x y : Nat) (v : α) (h : y ≠ x) : upd f x v y = f y := if_neg h

theorem fifo_of_upd {q : Nat → List SMsg} {x : Nat} {v : List SMsg}
    (hv : (∃ m, v = q x ++ [m]) ∨ (∃ m, q x = m :: v) ∨ v = []) (y : Nat) :
    upd q x v y = q y ∨ (∃ m, upd q x v y = q y ++ [m]) ∨ (∃ m, q y = m :: upd q x v y) ∨ upd q x v y = [] := by
  by_cases hy : y = x
  · subst hy; rw [upd_same]; exact .inr hv
  · exact .inl (upd_other _ _ _ _ hy)

/-- `okDone`, `origin` (C01) and `sorted`, `below`, `turnsSorted` (C08) are the end results; each other clause is what one of
    them needs at the one effect that threatens it. -/
structure Inv (s : State) : Prop where
  /-- Made at `finish` with `ok = true`, from `curFan` and `pending = []`. -/
  okDone : ∀ d ∈ s.done, d.ok = true → ∀ x ∈ d.fan, Delivered s x d.b
  /-- `okDone` for the running turn; `post` moves `x` from left to right. -/
  curFan : ∀ c, s.cur = some c → ∀ x ∈ c.fan, x ∈ c.pending ∨ Delivered s x c.b
  /-- Gives `below` for the batch a `post` appends. -/
  curCtr : ∀ c, s.cur = some c → c.b.lo + c.b.n = s.ctr
  /-- Gives `x ∈ c.fan` for `origin` at `post`. -/
  pendFan : ∀ c, s.cur = some c → ∀ x ∈ c.pending, x ∈ c.fan
  /-- At `post` the appended batch lies after all of `seq s x` by `belowCur`; at `close` a prefix stays sorted. -/
  sorted : ∀ x, (seq s x).Pairwise Before
  /-- Gives `belowCur` at `accept`, where the new batch starts at the counter. -/
  below : ∀ x, ∀ b ∈ seq s x, b.lo + b.n ≤ s.ctr
  /-- Keeps `sorted` at `post`. -/
  belowCur : ∀ c, s.cur = some c → ∀ x ∈ c.pending, ∀ b ∈ seq s x, b.lo + b.n ≤ c.b.lo
  origin : ∀ x, ∀ b ∈ seq s x,
    (∃ d ∈ s.done, d.b = b ∧ x ∈ d.fan) ∨ (∃ c, s.cur = some c ∧ c.b = b ∧ x ∈ c.fan ∧ x ∉ c.pending)
  /-- Id ranges ascend in accept order; at `accept` by `turnsBelow`. -/
  turnsSorted : (turnBatches s).Pairwise Before
  turnsBelow : ∀ b ∈ turnBatches s, b.lo + b.n ≤ s.ctr

theorem inv_init (cap : Nat) : Inv (init cap) := by
  constructor <;> simp [init, seq, posts, turnBatches]

/-- How one step changes what the invariant talks about. `seq` only ever grows at its end (by the
    running turn's batch, for a subscription whose post was pending) or is cut back to the handled
    prefix when the subscription's actor exits. -/
inductive Effect (s s' : State) : Prop
  /-- only mailboxes of requests / the attached set changed -/
  | frame : (∀ x, seq s' x = seq s x) → s'.closed = s.closed → s'.cur = s.cur → s'.done = s.done → s'.ctr = s.ctr →
      Effect s s'
  | accept (r n : Nat) : (∀ x, seq s' x = seq s x) → s'.closed = s.closed → s.cur = none →
      s'.cur = some { r := r, b := ⟨s.ctr, n⟩, fan := s.subs, pending := s.subs } → s'.done = s.done →
      s'.ctr = s.ctr + n → Effect s s'
  | post (c : Cur) (x : Nat) : s.cur = some c → x ∈ c.pending → s.closed x = false →
      seq s' x = seq s x ++ [c.b] → (∀ y, y ≠ x → seq s' y = seq s y) → s'.closed = s.closed →
      s'.cur = some { c with pending := c.pending.filter (· ≠ x) } → s'.done = s.done → s'.ctr = s.ctr → Effect s s'
  | finish (c : Cur) (ok : Bool) : s.cur = some c → (ok = true → c.pending = []) →
      (∀ x, seq s' x = seq s x) → s'.closed = s.closed → s'.cur = none →
      s'.done = s.done ++ [{ r := c.r, b := c.b, fan := c.fan, ok := ok }] → s'.ctr = s.ctr → Effect s s'
  | close (x : Nat) : seq s' x = s.taken x → (∀ y, y ≠ x → seq s' y = seq s y) →
      s'.closed = upd s.closed x true → s'.cur = s.cur → s'.done = s.done → s'.ctr = s.ctr → Effect s s'

theorem step_effect {s s' : State} {l : Label} (h : step s l = some s') : Effect s s' := by
  cases l with
  | cliPublish | cliAttach | cliRemove =>
    obtain ⟨_, rfl⟩ := Option.ite_some_none_eq_some.mp h
    exact .frame (fun _ => rfl) rfl rfl rfl rfl
  | cliOther x =>
    obtain ⟨_, rfl⟩ := Option.ite_some_none_eq_some.mp h
    refine .frame (fun y => ?_) rfl rfl rfl rfl
    by_cases hy : y = x
    · subst hy; simp [seq, posts_append, posts]
    · simp [seq, upd_other _ _ _ _ hy]
  | topicTake =>
    dsimp only [step] at h
    split at h <;> cases h
    · exact .accept _ _ (fun _ => rfl) rfl ‹_› rfl rfl rfl
    · exact .frame (fun _ => rfl) rfl rfl rfl rfl
    · exact .frame (fun _ => rfl) rfl rfl rfl rfl
  | postDone x =>
    dsimp only [step] at h
    split at h
    · rename_i c hc
      obtain ⟨hx, rfl⟩ := Option.ite_some_none_eq_some.mp h
      refine .post c x hc hx.1 hx.2.1 ?_ (fun y hy => ?_) rfl rfl rfl rfl
      · simp [seq, posts_append, posts]
      · simp [seq, upd_other _ _ _ _ hy]
    · cases h
  | postFail x =>
    dsimp only [step] at h
    split at h
    · obtain ⟨_, rfl⟩ := Option.ite_some_none_eq_some.mp h
      exact .finish _ false ‹_› nofun (fun _ => rfl) rfl rfl rfl rfl
    · cases h
  | reply =>
    dsimp only [step] at h
    split at h
    · obtain ⟨hp, rfl⟩ := Option.ite_some_none_eq_some.mp h
      exact .finish _ true ‹_› (fun _ => hp) (fun _ => rfl) rfl rfl rfl rfl
    · cases h
  | subTake x =>
    obtain ⟨_, h⟩ := Option.ite_none_left_eq_some.mp h
    split at h <;> cases h
    all_goals
      refine .frame (fun y => ?_) rfl rfl rfl rfl
      by_cases hy : y = x
      · subst hy; simp [seq, posts, *]
      · simp [seq, upd_other _ _ _ _ hy]
  | subClose x =>
    obtain ⟨_, h⟩ := Option.ite_none_left_eq_some.mp h
    cases h
    refine .close x ?_ (fun y hy => ?_) rfl rfl rfl rfl
    · simp [seq, posts]
    · simp [seq, upd_other _ _ _ _ hy]

theorem Delivered.congr {s s' : State} {x : Nat} {b : Batch} (hseq : ∀ x, seq s' x = seq s x) (hcl : s'.closed = s.closed)
    (h : Delivered s x b) : Delivered s' x b := by
  unfold Delivered at *; rw [hseq, hcl]; exact h

theorem inv_effect {s s' : State} (hi : Inv s) (e : Effect s s') : Inv s' := by
  cases e with
  | frame hseq hcl hcur hdone hctr =>
    constructor
    · intro d hd hok x hx; rw [hdone] at hd; exact (hi.okDone d hd hok x hx).congr hseq hcl
    · intro c hc x hx; rw [hcur] at hc
      exact (hi.curFan c hc x hx).imp id (.congr hseq hcl)
    · intro c hc; rw [hcur] at hc; rw [hctr]; exact hi.curCtr c hc
    · intro c hc; rw [hcur] at hc; exact hi.pendFan c hc
    · intro x; rw [hseq]; exact hi.sorted x
    · intro x b hb; rw [hseq] at hb; rw [hctr]; exact hi.below x b hb
    · intro c hc x hx b hb; rw [hcur] at hc; rw [hseq] at hb; exact hi.belowCur c hc x hx b hb
    · intro x b hb; rw [hseq] at hb; rw [hdone, hcur]; exact hi.origin x b hb
    · unfold turnBatches; rw [hdone, hcur]; exact hi.turnsSorted
    · unfold turnBatches; rw [hdone, hcur, hctr]; exact hi.turnsBelow
  | accept r n hseq hcl hnone hcur hdone hctr =>
    have htb : turnBatches s = s.done.map (·.b) := by simp [turnBatches, hnone]
    constructor
    · intro d hd hok x hx; rw [hdone] at hd; exact (hi.okDone d hd hok x hx).congr hseq hcl
    · intro c hc x hx; rw [hcur] at hc; cases hc; exact .inl hx
    · intro c hc; rw [hcur] at hc; cases hc; simp [hctr]
    · intro c hc; rw [hcur] at hc; cases hc; exact fun x hx => hx
    · intro x; rw [hseq]; exact hi.sorted x
    · intro x b hb; rw [hseq] at hb; have := hi.below x b hb; omega
    · intro c hc x _ b hb; rw [hcur] at hc; cases hc; rw [hseq] at hb; exact hi.below x b hb
    · intro x b hb; rw [hseq] at hb
      rcases hi.origin x b hb with h | ⟨c, hc, _⟩
      · rw [hdone]; exact .inl h
      · rw [hnone] at hc; cases hc
    · unfold turnBatches; rw [hdone, hcur]
      simp only [List.pairwise_append, List.pairwise_cons, List.Pairwise.nil, List.mem_singleton, and_true]
      refine ⟨?_, by simp, ?_⟩
      · have := hi.turnsSorted; rw [htb] at this; exact this
      · intro a ha b hb; subst hb
        have := hi.turnsBelow a (by rw [htb]; exact ha)
        simpa [Before] using this
    · intro b hb; unfold turnBatches at hb; rw [hdone, hcur] at hb
      simp only [List.mem_append, List.mem_singleton] at hb
      rcases hb with hb | hb
      · have := hi.turnsBelow b (by rw [htb]; exact hb); omega
      · subst hb; simp [hctr]
  | post c x hc hx _ hsx hsy hcl hcur hdone hctr =>
    have hD : ∀ y b, Delivered s y b → Delivered s' y b := fun y b h => by
      refine Or.imp (fun hb => ?_) (fun h => by rw [hcl]; exact h) h
      by_cases hy : y = x
      · subst hy; rw [hsx]; exact List.mem_append_left _ hb
      · rw [hsy y hy]; exact hb
    have htb : turnBatches s' = turnBatches s := by simp [turnBatches, hdone, hcur, hc]
    constructor
    · intro d hd hok y hy; rw [hdone] at hd; exact hD _ _ (hi.okDone d hd hok y hy)
    · intro c' hc' y hy; rw [hcur] at hc'; cases hc'
      by_cases hyx : y = x
      · subst hyx; exact .inr (.inl (by rw [hsx]; simp))
      · rcases hi.curFan c hc y hy with h | h
        · exact .inl (by simp [List.mem_filter, h, hyx])
        · exact .inr (hD _ _ h)
    · intro c' hc'; rw [hcur] at hc'; cases hc'; rw [hctr]; exact hi.curCtr c hc
    · intro c' hc' y hy; rw [hcur] at hc'; cases hc'
      exact hi.pendFan c hc y (List.mem_filter.mp hy).1
    · intro y
      by_cases hy : y = x
      · subst hy; rw [hsx, List.pairwise_append]
        refine ⟨hi.sorted y, by simp, ?_⟩
        intro a ha b hb
        simp only [List.mem_singleton] at hb; subst hb
        exact hi.belowCur c hc y hx a ha
      · rw [hsy y hy]; exact hi.sorted y
    · intro y b hb; rw [hctr]
      by_cases hy : y = x
      · subst hy; rw [hsx, List.mem_append, List.mem_singleton] at hb
        rcases hb with hb | hb
        · exact hi.below y b hb
        · subst hb; exact Nat.le_of_eq (hi.curCtr c hc)
      · rw [hsy y hy] at hb; exact hi.below y b hb
    · intro c' hc' y hy b hb; rw [hcur] at hc'; cases hc'
      have hy' := List.mem_filter.mp hy
      have hne : y ≠ x := by simpa using hy'.2
      rw [hsy y hne] at hb
      exact hi.belowCur c hc y hy'.1 b hb
    · intro y b hb; rw [hdone, hcur]
      by_cases hy : y = x
      · subst hy; rw [hsx, List.mem_append, List.mem_singleton] at hb
        rcases hb with hb | hb
        · rcases hi.origin y b hb with h | ⟨c2, hc2, _, _, hp2⟩
          · exact .inl h
          · rw [hc] at hc2; cases hc2; exact absurd hx hp2
        · subst hb
          exact .inr ⟨_, rfl, rfl, hi.pendFan c hc y hx, by simp [List.mem_filter]⟩
      · rw [hsy y hy] at hb
        rcases hi.origin y b hb with h | ⟨c2, hc2, hb2, hf2, hp2⟩
        · exact .inl h
        · rw [hc] at hc2; cases hc2
          exact .inr ⟨_, rfl, hb2, hf2, fun h => hp2 (List.mem_filter.mp h).1⟩
    · rw [htb]; exact hi.turnsSorted
    · rw [htb, hctr]; exact hi.turnsBelow
  | finish c ok hc hok hseq hcl hcur hdone hctr =>
    have htb : turnBatches s' = turnBatches s := by simp [turnBatches, hdone, hcur, hc]
    constructor
    · intro d hd hdok x hx; rw [hdone, List.mem_append, List.mem_singleton] at hd
      rcases hd with hd | hd
      · exact (hi.okDone d hd hdok x hx).congr hseq hcl
      · subst hd
        have hp := hok hdok
        rcases hi.curFan c hc x hx with h | h
        · rw [hp] at h; cases h
        · exact h.congr hseq hcl
    · intro c' hc'; rw [hcur] at hc'; cases hc'
    · intro c' hc'; rw [hcur] at hc'; cases hc'
    · intro c' hc'; rw [hcur] at hc'; cases hc'
    · intro x; rw [hseq]; exact hi.sorted x
    · intro x b hb; rw [hseq] at hb; rw [hctr]; exact hi.below x b hb
    · intro c' hc'; rw [hcur] at hc'; cases hc'
    · intro x b hb; rw [hseq] at hb
      rcases hi.origin x b hb with ⟨d, hd, h⟩ | ⟨c2, hc2, hb2, hf2, _⟩
      · exact .inl ⟨d, by rw [hdone]; exact List.mem_append_left _ hd, h⟩
      · rw [hc] at hc2; cases hc2
        exact .inl ⟨_, by rw [hdone]; exact List.mem_append_right _ (List.mem_singleton.mpr rfl), hb2, hf2⟩
    · rw [htb]; exact hi.turnsSorted
    · rw [htb, hctr]; exact hi.turnsBelow
  | close x hsx hsy hcl hcur hdone hctr =>
    have hsub : ∀ y b, b ∈ seq s' y → b ∈ seq s y := fun y b hb => by
      by_cases hy : y = x
      · subst hy; rw [hsx] at hb; exact List.mem_append_left _ hb
      · rw [hsy y hy] at hb; exact hb
    have hD : ∀ y b, Delivered s y b → Delivered s' y b := fun y b h => by
      by_cases hy : y = x
      · subst hy; exact .inr (by rw [hcl]; simp)
      · refine Or.imp (fun hb => by rw [hsy y hy]; exact hb) (fun h => ?_) h
        rw [hcl, upd_other _ _ _ _ hy]; exact h
    constructor
    · intro d hd hok y hy; rw [hdone] at hd; exact hD _ _ (hi.okDone d hd hok y hy)
    · intro c hc y hy; rw [hcur] at hc; exact (hi.curFan c hc y hy).imp id (hD _ _)
    · intro c hc; rw [hcur] at hc; rw [hctr]; exact hi.curCtr c hc
    · intro c hc; rw [hcur] at hc; exact hi.pendFan c hc
    · intro y
      by_cases hy : y = x
      · subst hy; rw [hsx]
        have := hi.sorted y
        unfold seq at this
        exact (List.pairwise_append.mp this).1
      · rw [hsy y hy]; exact hi.sorted y
    · intro y b hb; rw [hctr]; exact hi.below y b (hsub y b hb)
    · intro c hc y hy b hb; rw [hcur] at hc; exact hi.belowCur c hc y hy b (hsub y b hb)
    · intro y b hb; rw [hdone, hcur]; exact hi.origin y b (hsub y b hb)
    · unfold turnBatches; rw [hdone, hcur]; exact hi.turnsSorted
    · unfold turnBatches; rw [hdone, hcur, hctr]; exact hi.turnsBelow

theorem inv_reachable {cap : Nat} {s : State} (h : Reachable (init cap) s) : Inv s := by
  induction h with
  | refl => exact inv_init cap
  | step _ hs ih => exact inv_effect ih (step_effect hs)

end Deltio.P6
