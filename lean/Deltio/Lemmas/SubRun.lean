import Deltio.Lemmas.SubTurn
namespace Deltio

/-- Does this turn end the lease of ack id `a` with deadline `dl`? -/
def endsLease (a dl : Nat) : SubTurn → Prop
  | .ack ids => a ∈ ids
  | .modify mods => a ∈ mods.map (·.1)
  | .expire now => dl ≤ now
  | .deleteEnd => True
  | _ => False

theorem lease_persists {s : SubState} (h : SubInv s) (t : SubTurn) (d : Deliv) (hd : d ∈ s.out.msgs)
    (hne : ¬ endsLease d.ack d.deadline t) : d ∈ (s.turn t).1.out.msgs := by
  cases t with
  | post ms => simp only [SubState.turn]; split <;> exact hd
  | pull max16 now =>
    cases hdel : s.deleted with
    | true => simpa only [SubState.turn, hdel, ↓reduceIte] using hd
    | false => rw [(pull_out h hdel max16 now).2]; exact List.mem_append_left _ hd
  | ack ids =>
    simp only [SubState.turn]
    split
    · exact hd
    · exact (mem_remove_msgs ids s.out d).mpr ⟨hd, hne⟩
  | modify mods =>
    simp only [SubState.turn]
    split
    · exact hd
    · exact modify_untouched mods s.out d hd hne
  | expire now =>
    obtain ⟨out', ds, he, _, _, _, h4, _⟩ := expire_turn h now
    rw [he]
    exact (h4 d).mpr ⟨hd, Nat.lt_of_not_le hne⟩
  | deleteBegin => exact hd
  | deleteEnd => exact absurd trivial hne
  | getStats => exact hd
  | getInfo => exact hd

theorem lease_persists_exec {s : SubState} (h : SubInv s) (d : Deliv) (hd : d ∈ s.out.msgs) (ts : List SubTurn)
    (hkeep : ∀ t ∈ ts, ¬ endsLease d.ack d.deadline t) : d ∈ (s.exec ts).out.msgs :=
  (exec_induction (P := fun s' => SubInv s' ∧ d ∈ s'.out.msgs)
    (fun _ t ht h => ⟨SubInv_turn h.1 t, lease_persists h.1 t d h.2 (hkeep t ht)⟩) ⟨h, hd⟩).2

theorem at_deadline {s : SubState} (h : SubInv s) (d : Deliv) (hd : d ∈ s.out.msgs) (now : Nat)
    (hdl : d.deadline ≤ now) :
    let s' := (s.turn (.expire now)).1
    d.msg ∈ s'.backlog ∧ (∀ x ∈ s'.out.msgs, x.ack ≠ d.ack) ∧ s'.out.lookup d.ack = none ∧
    (s.turn (.expire now)).2.notified = true ∧ d.ack < s'.nextAck ∧ (s.turn (.expire now)).2.ub = false := by
  obtain ⟨out', ds, he, _, _, h3, h4, _⟩ := expire_turn h now
  have hds : d ∈ ds := (h3 d).mpr ⟨hd, hdl⟩
  have hgone : ∀ x ∈ out'.msgs, x.ack ≠ d.ack := fun x hx hxa => by
    have hx := (h4 x).mp hx
    cases ack_unique h.out.nodup hx.1 hd hxa
    omega
  rw [he]
  refine ⟨List.mem_append_right _ (List.mem_map_of_mem hds), hgone, lookup_eq_none_iff.mpr hgone, ?_, h.acks d hd, rfl⟩
  cases ds with
  | nil => cases hds
  | cons _ _ => rfl

/-- Backlog only grows at the back or shrinks at the front; in particular every message that is
    in the backlog after a turn was held (queued or leased) before it, or was posted by it. -/
theorem backlog_from (s : SubState) (h : SubInv s) (t : SubTurn) :
    ∀ m ∈ (s.turn t).1.backlog, m ∈ s.backlog ∨ m ∈ s.out.msgs.map (·.msg) ∨ m ∈ postedBy t := by
  intro m hm
  cases t with
  | post ms =>
    simp only [SubState.turn] at hm
    split at hm
    · exact Or.inl hm
    · exact (List.mem_append.mp hm).imp_right .inr
  | pull max16 now =>
    cases hdel : s.deleted with
    | true => simp only [SubState.turn, hdel, ↓reduceIte] at hm; exact Or.inl hm
    | false => exact Or.inl (pull_fifo s max16 now hdel ▸ List.mem_append_right _ hm)
  | ack ids =>
    simp only [SubState.turn] at hm
    split at hm <;> exact Or.inl hm
  | modify mods =>
    simp only [SubState.turn] at hm
    split at hm
    · exact Or.inl hm
    · refine (List.mem_append.mp hm).imp_right fun hm => Or.inl ?_
      exact (modify_msgs_perm mods h.out).mem_iff.mp (List.mem_append_right _ hm)
  | expire now =>
    obtain ⟨out', ds, he, _, _, h3, _⟩ := expire_turn h now
    rw [he] at hm
    refine (List.mem_append.mp hm).imp_right fun hm => Or.inl ?_
    obtain ⟨d, hd, rfl⟩ := List.mem_map.mp hm
    exact List.mem_map_of_mem ((h3 d).mp hd).1
  | deleteBegin => exact Or.inl hm
  | deleteEnd => cases hm
  | getStats => exact Or.inl hm
  | getInfo => exact Or.inl hm

theorem held_nodup_turn {s : SubState} (h : SubInv s) (hd : s.deleted = false) (t : SubTurn) (ht : t ≠ .deleteEnd)
    (hnd : ((held s ++ postedBy t).map (·.id)).Nodup) : ((held (s.turn t).1).map (·.id)).Nodup := by
  have := (((turn_conserve h hd t ht).map (·.id)).nodup_iff).mpr hnd
  rw [List.map_append] at this
  exact (List.nodup_append.mp this).1

theorem exec_nodup {s : SubState} (h : SubInv s) (hd : s.deleted = false) (ts : List SubTurn) (hn : NoDelete ts)
    (hfresh : ((held s ++ postedIn ts).map (·.id)).Nodup) : ((held (s.exec ts) ++ ackedIn s ts).map (·.id)).Nodup :=
  ((exec_conserve h hd ts hn).map _).nodup_iff.mpr hfresh

theorem prefix_hyps {s : SubState} {ts p : List SubTurn} {u : SubTurn} {rest : List SubTurn} (hts : ts = p ++ u :: rest)
    (hn : NoDelete ts) (hfresh : ((held s ++ postedIn ts).map (·.id)).Nodup) :
    NoDelete p ∧ ((held s ++ postedIn p).map (·.id)).Nodup :=
  have hp : p <+: ts := ⟨u :: rest, hts.symm⟩
  ⟨noDelete_prefix hp hn, hfresh.sublist (((postedIn_prefix hp).sublist.append_left _).map _)⟩

end Deltio
