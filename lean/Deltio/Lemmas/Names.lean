import Deltio.Model.Names
import Deltio.Lemmas.List
/- `parseName`: topics and subscriptions share it, with the middle segment as a parameter. -/
namespace Deltio

theorem stripPrefix_eq_some {p s r : Bytes} : stripPrefix p s = some r ↔ s = p ++ r := by
  unfold stripPrefix
  constructor
  · split
    · rename_i hp
      obtain ⟨t, rfl⟩ := List.isPrefixOf_iff_prefix.mp hp
      simp +contextual [eq_comm]
    · simp
  · rintro rfl
    simp [List.isPrefixOf_iff_prefix.mpr (List.prefix_append p r)]

theorem span_slash {p : Bytes} (hp : slash ∉ p) (rest : Bytes) :
    (p ++ slash :: rest).takeWhile (· != slash) = p ∧
    (p ++ slash :: rest).dropWhile (· != slash) = slash :: rest := by
  have h : ∀ a ∈ p, (a != slash) = true := fun a ha => by simpa using fun (e : a = slash) => hp (e ▸ ha)
  rw [List.takeWhile_append_of_pos h, List.dropWhile_append_of_pos h]
  simp

theorem dropWhile_eq_self_of_head {α} (p : α → Bool) (l : List α)
    (h : ∀ a, l.head? = some a → p a = false) : l.dropWhile p = l := by
  cases l with
  | nil => rfl
  | cons a l => exact List.dropWhile_cons_of_neg (by simp [h a rfl])

theorem head_rtrim {α} (p : α → Bool) (l : List α) (a : α)
    (h : ((l.reverse.dropWhile p).reverse).head? = some a) : l.head? = some a := by
  obtain ⟨t, ht⟩ : (l.reverse.dropWhile p).reverse <+: l := by
    simpa using (List.dropWhile_suffix p (l := l.reverse)).reverse
  rw [← ht, List.head?_append, h]; rfl

theorem trimSlashes_noEdge (r : Bytes) :
    (∀ a, (trimSlashes r).head? = some a → (a == slash) = false) ∧
    (∀ a, (trimSlashes r).getLast? = some a → (a == slash) = false) := by
  unfold trimSlashes
  constructor
  · intro a ha
    have := List.head?_dropWhile_not (· == slash) r
    rwa [head_rtrim _ _ a ha] at this
  · intro a ha
    have := List.head?_dropWhile_not (· == slash) (r.dropWhile (· == slash)).reverse
    rw [List.getLast?_reverse] at ha
    rwa [ha] at this

theorem trimSlashes_of_noEdge (t : Bytes)
    (h1 : ∀ a, t.head? = some a → (a == slash) = false)
    (h2 : ∀ a, t.getLast? = some a → (a == slash) = false) : trimSlashes t = t := by
  unfold trimSlashes
  rw [dropWhile_eq_self_of_head _ t h1]
  rw [dropWhile_eq_self_of_head _ t.reverse (by rw [List.head?_reverse]; exact h2)]
  simp

theorem trimSlashes_idem (r : Bytes) : trimSlashes (trimSlashes r) = trimSlashes r :=
  trimSlashes_of_noEdge _ (trimSlashes_noEdge r).1 (trimSlashes_noEdge r).2

theorem parseName_display {middle m' : Bytes} (hm : middle = slash :: m') {n : Name} (hp : slash ∉ n.1) :
    parseName middle (displayName middle n) = some (n.1, trimSlashes n.2) := by
  have hs := span_slash hp (m' ++ n.2)
  rw [← List.cons_append, ← hm] at hs
  rw [parseName, displayName, List.append_assoc, List.append_assoc, stripPrefix_eq_some.mpr rfl]
  simp only [hs, stripPrefix_eq_some.mpr rfl]
  simp [hm]

end Deltio
