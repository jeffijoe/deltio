import Deltio.Proto.Attach
/-
  Slice P1, repaired protocol: every generation of the name is unborn, done, or the one the manager has
  registered, and each label moves the registered one to the next row of `Row` (one lemma per label).
-/
namespace Deltio.P1

def Gen.done : Gen := ⟨.finished, true, .done⟩

/-- The life of the REGISTERED generation `g`, row by row in the order it is lived: its value, what
    the topic mailbox holds then, and what a live topic lists under the name then. -/
inductive Row (g : Nat) : Gen → List TMsg → Option Nat → Prop
  | toSend    : Row g ⟨.toSend, false, .none⟩ [] none
  | sent      : Row g ⟨.sent, false, .none⟩ [.attach g] none
  | replied   : Row g ⟨.replied, false, .none⟩ [] (some g)
  | finished  : Row g ⟨.finished, false, .none⟩ [] (some g)
  | delToSend : Row g ⟨.finished, true, .toSend⟩ [] (some g)
  | delSent   : Row g ⟨.finished, true, .sent⟩ [.remove g] (some g)
  | removed   : Row g ⟨.finished, true, .removed⟩ [] none

namespace Row
variable {g c : Nat} {v : Gen} {mb rest : List TMsg} {t : Option Nat}

theorem attachSend (h : Row g v mb t) (ha : v.att = .toSend) : Row g { v with att := .sent } (mb ++ [.attach g]) t := by
  cases h <;> first | contradiction | exact .sent

theorem retarget (h : Row g v mb t) (ha : v.att = .toSend) : t = none := by
  cases h <;> first | contradiction | rfl

theorem takeAttach (h : Row c v (.attach g :: rest) t) : g = c ∧ t = none ∧ Row c { v with att := .replied } rest (some c) := by
  cases h; exact ⟨rfl, rfl, .replied⟩

theorem attachFinish (h : Row g v mb t) (ha : v.att = .replied) : t = some g ∧ Row g { v with att := .finished } mb t := by
  cases h <;> first | contradiction | exact ⟨rfl, .finished⟩

theorem actorDelete (h : Row g v mb t) (ha : v.att = .finished) (hd : ¬v.deleted = true) :
    Row g { v with deleted := true, helper := .toSend } mb t := by
  cases h <;> first | contradiction | exact .delToSend

theorem deleteDirect (h : Row g v mb t) (ha : v.att = .finished) (hd : ¬v.deleted = true) :
    { v with deleted := true, helper := .done } = Gen.done ∧ mb = [] := by
  cases h <;> first | contradiction | exact ⟨rfl, rfl⟩

theorem helperSend (h : Row g v mb t) (hh : v.helper = .toSend) : Row g { v with helper := .sent } (mb ++ [.remove g]) t := by
  cases h <;> first | contradiction | exact .delSent

theorem takeRemove (h : Row c v (.remove g :: rest) t) : g = c ∧ Row c { v with helper := .removed } rest none := by
  cases h; exact ⟨rfl, .removed⟩

theorem helperFinish (h : Row g v mb t) (hh : v.helper = .removed) : { v with helper := .done } = Gen.done ∧ mb = [] ∧ t = none := by
  cases h <;> first | contradiction | exact ⟨rfl, rfl, rfl⟩

theorem listed (h : Row c v mb t) (ht : t = some g) : g = c := by
  cases h <;> cases ht <;> rfl

/-- Empty mailbox: the registered generation is at rest (row `finished`) or a task of its own can move. -/
theorem enabled (h : Row g v [] t) :
    (v.att = .finished ∧ v.helper = .none ∧ t = some g) ∨ v.att = .toSend ∨ v.att = .replied ∨ v.helper = .toSend ∨ v.helper = .removed := by
  cases h <;> simp

end Row

structure AttachInv (s : State) : Prop where
  /-- A Delete is accepted only after `attach_finished`, so `delete_accepted` finds row `finished`. -/
  rep : s.repaired = true
  /-- With `old`: a generation with a step left is the registered one (`active_is_cur`), hence in a row (`cur`). -/
  fresh : ∀ g, s.next ≤ g → s.gen g = {}
  old : ∀ g, g < s.next → s.mgr ≠ some g → s.gen g = .done
  /-- A free name has left nothing behind: `create` starts in row `toSend` (`inv_register`). -/
  empty : s.mgr = none → s.mbT = [] ∧ (s.tdead = false → s.topic = none)
  /-- The topic's entry follows the row only while the topic lives: `topicDie` clears it in any row. -/
  cur : ∀ g, s.mgr = some g → g < s.next ∧ ∃ t, Row g (s.gen g) s.mbT t ∧ (s.tdead = false → s.topic = t)
  /-- A pending Delete holds an id handed out: if not the registered one, its generation is `done` by `old`, and
      the Delete waits for no `attach_finished` (`C11_progress`). -/
  dl : ∀ d ∈ s.dels, d < s.next

theorem inv_erase {s : State} (h : AttachInv s) (i : Nat) : AttachInv { s with dels := s.dels.eraseIdx i } :=
  { h with dl := fun x hx => h.dl x (List.mem_of_mem_eraseIdx hx) }

theorem inv_init : AttachInv (init true) :=
  ⟨rfl, fun _ _ => rfl, fun _ h => absurd h (Nat.not_lt_zero _), fun _ => ⟨rfl, fun _ => rfl⟩, fun _ h => (nomatch h), fun _ h => (nomatch h)⟩

theorem upd_same (f : Nat → Gen) (g : Nat) (v : Gen) : upd f g v g = v := if_pos rfl
theorem upd_other (f : Nat → Gen) (g g' : Nat) (v : Gen) (h : g' ≠ g) : upd f g v g' = f g' := if_neg h

theorem active_is_cur {s : State} (h : AttachInv s) {g : Nat} (h0 : s.gen g ≠ {}) (h1 : s.gen g ≠ .done) : s.mgr = some g :=
  Classical.byContradiction fun hc =>
    (Nat.lt_or_ge g s.next).elim (fun hl => h1 (h.old g hl hc)) (fun hl => h0 (h.fresh g hl))

theorem inv_register {s : State} (h : AttachInv s) (hn : s.mgr = none) :
    AttachInv { s with mgr := some s.next, next := s.next + 1, gen := upd s.gen s.next { att := .toSend } } := by
  obtain ⟨hmb, ht⟩ := h.empty hn
  constructor <;> dsimp only
  · exact h.rep
  · intro x hx
    rw [upd_other _ _ _ _ (Nat.ne_of_gt hx)]; exact h.fresh x (Nat.le_of_succ_le hx)
  · intro x hx hne
    have hxg : x ≠ s.next := fun hc => hne (congrArg some hc.symm)
    rw [upd_other _ _ _ _ hxg]
    exact h.old x (Nat.lt_of_le_of_ne (Nat.le_of_lt_succ hx) hxg) (hn ▸ nofun)
  · exact nofun
  · intro x hx
    cases hx
    rw [upd_same, hmb]
    exact ⟨Nat.lt_succ_self _, none, .toSend, ht⟩
  · exact fun d hd => Nat.lt_succ_of_lt (h.dl d hd)

theorem inv_update_cur {s : State} (h : AttachInv s) {g : Nat} (hm : s.mgr = some g) {v : Gen} {mb : List TMsg}
    {t t' : Option Nat} (hrow : Row g v mb t) (ht : s.tdead = false → t' = t) :
    AttachInv { s with mbT := mb, topic := t', gen := upd s.gen g v } := by
  have hlt := (h.cur g hm).1
  constructor <;> dsimp only
  · exact h.rep
  · intro x hx
    rw [upd_other _ _ _ _ (Nat.ne_of_gt (Nat.lt_of_lt_of_le hlt hx))]; exact h.fresh x hx
  · intro x hx hne
    have hxg : x ≠ g := by intro hc; subst hc; exact hne hm
    rw [upd_other _ _ _ _ hxg]; exact h.old x hx hne
  · intro hn
    rw [hm] at hn; cases hn
  · intro x hx
    rw [hm] at hx
    cases hx
    rw [upd_same]
    exact ⟨hlt, t, hrow, ht⟩
  · exact h.dl

theorem inv_retire {s : State} (h : AttachInv s) {g : Nat} (hm : s.mgr = some g) {v : Gen} (hv : v = .done)
    (hmb : s.mbT = []) (ht : s.tdead = false → s.topic = none) :
    AttachInv { s with mgr := none, gen := upd s.gen g v } := by
  have hlt := (h.cur g hm).1
  constructor <;> dsimp only
  · exact h.rep
  · intro x hx
    rw [upd_other _ _ _ _ (Nat.ne_of_gt (Nat.lt_of_lt_of_le hlt hx))]; exact h.fresh x hx
  · intro x hx _
    by_cases hxg : x = g
    · subst hxg; rw [upd_same]; exact hv
    · rw [upd_other _ _ _ _ hxg]
      exact h.old x hx (by rw [hm]; intro hc; cases hc; exact hxg rfl)
  · exact fun _ => ⟨hmb, ht⟩
  · intro x hx; cases hx
  · exact h.dl

/-- A Delete that its actor accepts (attach finished, not yet deleted) concerns the registered generation. -/
theorem delete_accepted {s : State} (h : AttachInv s) {g : Nat} (hw : ¬(s.repaired ∧ (s.gen g).att ≠ .finished))
    (hd : ¬(s.gen g).deleted = true) : (s.gen g).att = .finished ∧ s.mgr = some g :=
  have hfin : (s.gen g).att = .finished := Decidable.byContradiction fun hc => hw ⟨h.rep, hc⟩
  ⟨hfin, active_is_cur h (fun e => nomatch e ▸ hfin) (fun e => hd (by rw [e]; rfl))⟩

theorem cur_of_mail {s : State} (h : AttachInv s) {m : TMsg} {rest : List TMsg} (hmb : s.mbT = m :: rest) :
    ∃ c t, s.mgr = some c ∧ Row c (s.gen c) (m :: rest) t ∧ (s.tdead = false → s.topic = t) := by
  cases hm : s.mgr with
  | none => exact nomatch (h.empty hm).1 ▸ hmb
  | some c =>
    obtain ⟨_, t, hrow, ht⟩ := h.cur c hm
    exact ⟨c, t, rfl, hmb ▸ hrow, ht⟩

theorem ite_both {α} {c : Prop} [Decidable c] {a b x : α} (h : (if c then some a else some b) = some x) :
    (c ∧ a = x) ∨ (¬c ∧ b = x) := by
  split at h
  · exact .inl ⟨‹_›, Option.some.inj h⟩
  · exact .inr ⟨‹_›, Option.some.inj h⟩

theorem inv_step {s s' : State} (h : AttachInv s) (l : Label) (hs : step s l = some s') : AttachInv s' := by
  cases l with
  | create =>
    obtain ⟨hn, rfl⟩ := Option.ite_some_none_eq_some.mp hs
    exact inv_register h hn
  | attachSend g =>
    obtain ⟨hg, rfl⟩ := Option.ite_some_none_eq_some.mp hs
    have hm := active_is_cur h (fun e => nomatch e ▸ hg) (fun e => nomatch e ▸ hg)
    obtain ⟨_, t, hrow, ht⟩ := h.cur g hm
    exact inv_update_cur h hm (hrow.attachSend hg) ht
  | topicTake =>
    dsimp only [step] at hs
    split at hs
    · cases hs
    · rename_i g rest hmb
      cases hs
      obtain ⟨c, t, hm, hrow, ht⟩ := cur_of_mail h hmb
      obtain ⟨rfl, rfl, hrow'⟩ := hrow.takeAttach
      exact inv_update_cur h hm hrow' (fun hd => by rw [ht hd]; rfl)
    · rename_i g rest hmb
      cases hs
      obtain ⟨c, t, hm, hrow, ht⟩ := cur_of_mail h hmb
      obtain ⟨rfl, hrow'⟩ := hrow.takeRemove
      exact inv_update_cur h hm hrow' (fun _ => rfl)
  | attachFinish g =>
    obtain ⟨hg, rfl⟩ := Option.ite_some_none_eq_some.mp hs
    have hm := active_is_cur h (fun e => nomatch e ▸ hg) (fun e => nomatch e ▸ hg)
    obtain ⟨_, t, hrow, ht⟩ := h.cur g hm
    exact inv_update_cur h hm (hrow.attachFinish hg).2 ht
  | deleteStart =>
    dsimp only [step] at hs
    split at hs
    · cases hs
    · rename_i g hg
      cases hs
      refine { h with dl := fun d hd => ?_ }
      rcases List.mem_append.mp hd with hd | hd
      · exact h.dl d hd
      · cases List.mem_singleton.mp hd
        exact (h.cur g hg).1
  | actorDelete i =>
    dsimp only [step] at hs
    split at hs
    · cases hs
    · rename_i g _
      obtain ⟨hw, hs⟩ := Option.ite_none_left_eq_some.mp hs
      obtain ⟨_, rfl⟩ | ⟨hd, rfl⟩ := ite_both hs
      · exact inv_erase h i
      · obtain ⟨hfin, hm⟩ := delete_accepted h hw hd
        obtain ⟨_, t, hrow, ht⟩ := h.cur g hm
        exact inv_erase (inv_update_cur h hm (hrow.actorDelete hfin hd) ht) i
  | helperSend g =>
    obtain ⟨hg, rfl⟩ := Option.ite_some_none_eq_some.mp hs
    have hm := active_is_cur h (fun e => nomatch e ▸ hg) (fun e => nomatch e ▸ hg)
    obtain ⟨_, t, hrow, ht⟩ := h.cur g hm
    exact inv_update_cur h hm (hrow.helperSend hg) ht
  | helperFinish g =>
    obtain ⟨hg, rfl⟩ := Option.ite_some_none_eq_some.mp hs
    have hm := active_is_cur h (fun e => nomatch e ▸ hg) (fun e => nomatch e ▸ hg)
    obtain ⟨_, t, hrow, ht⟩ := h.cur g hm
    obtain ⟨hv, hmb, rfl⟩ := hrow.helperFinish hg
    exact inv_retire h hm hv hmb ht
  | topicDie =>
    obtain ⟨_, hs⟩ := Option.ite_none_left_eq_some.mp hs
    cases hs
    exact { h with
      empty := fun hn => ⟨(h.empty hn).1, nofun⟩
      cur := fun g hg => have ⟨a, t, b, _⟩ := h.cur g hg; ⟨a, t, b, nofun⟩ }
  | retarget g =>
    obtain ⟨⟨_, hm, hatt⟩, rfl⟩ := Option.ite_some_none_eq_some.mp hs
    exact { h with
      empty := fun hn => nomatch hm ▸ hn
      cur := fun x hx => have ⟨a, t, b, _⟩ := h.cur x hx; ⟨a, t, b, fun _ => by
        cases hm ▸ hx; exact (b.retarget hatt).symm⟩ }
  | actorDeleteDirect i =>
    dsimp only [step] at hs
    split at hs
    · cases hs
    · rename_i g _
      obtain ⟨hdead, hs⟩ := Option.ite_none_left_eq_some.mp hs
      obtain ⟨hw, hs⟩ := Option.ite_none_left_eq_some.mp hs
      obtain ⟨_, rfl⟩ | ⟨hd, rfl⟩ := ite_both hs
      · exact inv_erase h i
      · obtain ⟨hfin, hm⟩ := delete_accepted h hw hd
        obtain ⟨_, t, hrow, ht⟩ := h.cur g hm
        obtain ⟨hv, hmb⟩ := hrow.deleteDirect hfin hd
        exact inv_erase (inv_retire h hm hv hmb (fun hc => absurd (by rw [hc]; rfl) hdead)) i

theorem inv_reachable (s : State) (hr : Reachable (init true) s) : AttachInv s := by
  induction hr with
  | refl => exact inv_init
  | step _ hs ih => exact inv_step ih _ hs

end Deltio.P1
