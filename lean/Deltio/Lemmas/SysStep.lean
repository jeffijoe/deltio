import Deltio.Lemmas.SysFrame
namespace Deltio

inductive SysOp where
  | rpc (r : Req)
  | advance (d : Nat)
  | streamOpen (k : Nat) (rawSub : Bytes) (maxMsgs : Int)
  | streamSend (k : Nat) (c : StreamCtl)
  | streamRead (k : Nat)
  | streamCloseReq (k : Nat)
  | streamDrop (k : Nat)

def Sys.apply (sys : Sys) : SysOp → Sys
  | .rpc r => (sys.rpc r).1
  | .advance d => sys.advance d
  | .streamOpen k raw mm => (sys.streamOpen k raw mm).1
  | .streamSend k c => sys.streamSend k c
  | .streamRead k => (sys.streamRead k).1
  | .streamCloseReq k => sys.streamCloseReq k
  | .streamDrop k => sys.streamDrop k

def Sys.execOps (sys : Sys) (ops : List SysOp) : Sys := ops.foldl Sys.apply sys

theorem execOps_ind {P : Sys → Prop} (hstep : ∀ s op, P s → P (s.apply op)) : ∀ (ops : List SysOp) (sys : Sys),
    P sys → P (sys.execOps ops)
  | [], _, h => h
  | op :: rest, sys, h => execOps_ind hstep rest (sys.apply op) (hstep sys op h)

/-- The registry after CreateSubscription of `sn` with push configuration `pc`. -/
def regAfter (sn : Name) (reg : List (Name × PushCfg)) : Option PushCfg → List (Name × PushCfg)
  | some c => if (alookup sn reg).isSome then reg else reg ++ [(sn, c)]
  | none => reg

/-- What an operation does to the managers' tables and to the set of streams before (or without) reaching a
    subscription actor. An over-approximation, as precise as the invariants read off `apply_factor` need: `streams`
    admits any new list of streams, `publish` any topic id, `createSub` does not tie the names to the raw arguments. -/
inductive Sys.Ctl (sys : Sys) : SysOp → Sys → Prop
  | none (op : SysOp) : Sys.Ctl sys op sys
  | createTopic {raw : Bytes} {n : Name} : parseTopicName raw = some n → sys.findTopic n = none →
      Sys.Ctl sys (.rpc (.createTopic raw))
        { sys with nextTopic := sys.nextTopic + 1,
                   topics := sys.topics ++ [{ tid := sys.nextTopic + 1, name := n, subs := [], nextMsg := 0 }] }
  | deleteTopic {raw : Bytes} {n : Name} {t : TopicEnt} : sys.findTopic n = some t →
      Sys.Ctl sys (.rpc (.deleteTopic raw)) { sys with topics := sys.topics.filter (·.tid != t.tid) }
  | createSub {rawName rawTopic : Bytes} {ackSecs : Int} {push : Option PushCfg} {tn sn : Name} {t : TopicEnt}
      (pc : Option PushCfg) : sys.findTopic tn = some t → sys.findSub sn = none →
      Sys.Ctl sys (.rpc (.createSub rawName rawTopic ackSecs push))
        { sys with
          nextSub := sys.nextSub + 1
          subs := sys.subs ++ [{ sid := sys.nextSub + 1, name := sn, topicId := t.tid, ackSecs := effAckDeadlineSecs ackSecs,
                                 push := pc, st := SubState.init (effAckDeadlineSecs ackSecs * 1000000) }]
          registry := regAfter sn sys.registry pc
          topics := sys.topics.map (fun x =>
            if x.tid == t.tid then
              (if (alookup sn x.subs).isSome then x else { x with subs := x.subs ++ [(sn, sys.nextSub + 1)] })
            else x) }
  | deleteSub {raw : Bytes} {n : Name} {e : SubEnt} : sys.findSub n = some e →
      Sys.Ctl sys (.rpc (.deleteSub raw))
        { sys with
          topics := sys.topics.map (fun x => if x.tid == e.topicId then { x with subs := aerase n x.subs } else x)
          subs := sys.subs.filter (·.sid != e.sid)
          registry := aerase n sys.registry
          streams := sys.streams.map (fun s =>
            if s.sid == e.sid && !s.ended then { s with outbox := s.outbox ++ [.done .notFound], ended := true } else s) }
  | publish {raw : Bytes} {msgs : List (Bytes × List (Bytes × Bytes))} (k : Nat) :
      Sys.Ctl sys (.rpc (.publish raw msgs))
        { sys with
          topics := sys.topics.map (fun x => if x.tid == k then { x with nextMsg := x.nextMsg + msgs.length } else x)
          pubSeq := sys.pubSeq + 1 }
  | streams {op : SysOp} (ss : List Stream) : Sys.Ctl sys op { sys with streams := ss }

/-- How far an operation may move the clock: a blocked Pull waits at most for its five-minute limit (`limit` in the
    pull case of `Sys.rpc`); apart from `advance`, nothing else takes time. -/
def Sys.mayWaitUntil (sys : Sys) : SysOp → Nat
  | .rpc (.pull _ _ _) => ceilMs (sys.clock + pullLimitUs) + sys.clock % 1000
  | .advance d => sys.clock + d
  | _ => 0

theorem Sys.Ctl.clock {sys mid : Sys} {op : SysOp} (h : sys.Ctl op mid) : mid.clock = sys.clock := by
  cases h <;> rfl

-- `backward.split false` selects the newer `split`, which reduces only the `if` it splits; the default one also tries to
-- discharge every `if` nested in the term against every hypothesis, at every split: the same proof, far slower to check here.
set_option backward.split false in
/-- The one pass over the 14 request handlers and the 6 stream and time operations. An operation is a
    control-plane edit that keeps the stream keys distinct and opens no stream (`hctl`; its two premises say so), or the
    opening of one stream followed by a mailbox request to its
    subscription (`hopen`); then mailbox requests, each data-plane work on one subscription followed by its
    `drainSub` (`hreq`), and clock moves (`hclk`). Only a Pull that may block takes turns that no `drainSub` follows (`hbare`).
    `dsimp only` after the splits removes the `(_, resp).fst` wrapper: unifying through it unfolds `drainSub`. -/
theorem apply_ind {P : Sys → Prop} (sys : Sys) (op : SysOp)
    (hctl : ∀ mid, sys.Ctl op mid → ((sys.streams.map (·.k)).Nodup → (mid.streams.map (·.k)).Nodup) →
      (∀ s ∈ mid.streams, s.ended = false → ∃ s0 ∈ sys.streams, s0.ended = false ∧ s0.sid = s.sid) → P mid)
    (hopen : ∀ (s : Stream) x, Sys.Data (· = s.sid) 0 { sys with streams := sys.streams.filter (·.k != s.k) ++ [s] } x →
      P (x.drainSub s.sid))
    (hreq : ∀ s x sid, P s → Sys.Data (· = sid) 0 s x → P (x.drainSub sid))
    (hclk : ∀ (s : Sys) c, P s → s.clock ≤ c → c ≤ max s.clock (sys.mayWaitUntil op) → P { s with clock := c })
    (hbare : ∀ s x raw mx n e, op = .rpc (.pull raw mx false) → parseSubName raw = some n → sys.findSub n = some e →
      P s → s.streams.map Stream.shape = sys.streams.map Stream.shape → Sys.Data (· = e.sid) 0 s x → P x) :
    P (sys.apply op) := by
  -- the edits of the control plane that rewrite the streams one by one, none reopened
  have hedit : ∀ {mid : Sys} (f : Stream → Stream), sys.Ctl op mid → mid.streams = sys.streams.map f → (∀ x, (f x).k = x.k) →
      (∀ x, (f x).ended = false → (f x).sid = x.sid ∧ x.ended = false) → P mid := by
    intro mid f hc he hk hf
    refine hctl mid hc (fun h => by rw [he, map_map_of_key hk]; exact h) (fun s hs hend => ?_)
    rw [he] at hs
    obtain ⟨s0, hs0, rfl⟩ := List.mem_map.mp hs
    exact ⟨s0, hs0, (hf s0 hend).2, (hf s0 hend).1.symm⟩
  have hsame : ∀ {mid : Sys}, sys.Ctl op mid → mid.streams = sys.streams → P mid :=
    fun hc he => hedit id hc (by rw [he, List.map_id]) (fun _ => rfl) (fun _ h => ⟨rfl, h⟩)
  have h0 : P sys := hsame (.none op) rfl
  have htouch : ∀ s sid, P s → P (s.touch sid) := fun s sid h => hreq s _ sid h (subExpire_data s sid)
  have hto : ∀ frac fuel target s, target ≤ sys.mayWaitUntil op → P s → P (Sys.advanceTo frac fuel target s) :=
    fun frac fuel target s ht h => advanceTo_ind frac target htouch (fun s c h h1 h2 => hclk s c h h1 (Nat.le_trans h2 (max_le_max_left _ ht))) fuel s h
  have hsub : ∀ s sid t, t ≠ .deleteBegin ∧ t ≠ .deleteEnd → P s → P (s.subReq sid t).1 :=
    fun s sid t ht h => hreq s _ sid h (subTurn_data s sid t ht)
  cases op with
  | rpc r =>
    cases r with
    | createTopic raw =>
      dsimp only [Sys.apply, Sys.rpc]
      (repeat' split) <;> dsimp only <;> first | exact h0 | exact hsame (.createTopic ‹_› ‹_›) rfl
    | getTopic raw => dsimp only [Sys.apply, Sys.rpc]; (repeat' split) <;> exact h0
    | deleteTopic raw =>
      dsimp only [Sys.apply, Sys.rpc]
      (repeat' split) <;> dsimp only <;> first | exact h0 | exact hsame (.deleteTopic ‹_›) rfl
    | listTopics p s t => dsimp only [Sys.apply, Sys.rpc]; (repeat' split) <;> exact h0
    | listTopicSubs p s t => dsimp only [Sys.apply, Sys.rpc]; (repeat' split) <;> exact h0
    | createSub rawN rawT ack push =>
      dsimp only [Sys.apply, Sys.rpc]
      split
      · exact h0
      · split
        · exact h0
        · split
          · exact h0
          · split
            · exact h0
            · split
              · exact h0
              · split
                · exact h0
                · exact hsame (.createSub _ ‹_› ‹_›) rfl
    | getSub raw =>
      dsimp only [Sys.apply, Sys.rpc]
      (repeat' split) <;> dsimp only <;> first | exact h0 | exact htouch _ _ h0
    | listSubs p s t =>
      dsimp only [Sys.apply, Sys.rpc]
      (repeat' split) <;> dsimp only <;> first | exact h0 | exact touchAll_ind htouch _ _ h0
    | deleteSub raw =>
      dsimp only [Sys.apply, Sys.rpc]
      (repeat' split) <;> dsimp only <;> first
        | exact h0
        | exact hedit _ (.deleteSub ‹_›) rfl (fun x => by split <;> rfl) (fun x => by split <;> simp)
    | publish raw msgs =>
      dsimp only [Sys.apply, Sys.rpc]
      (repeat' split) <;> dsimp only <;> first
        | exact h0
        | exact postAll_ind _ _ _ (fun s p _ => hsub s p.2 _ (by simp)) (hsame (.publish _) rfl)
    | pull raw mx ri =>
      cases hp : parseSubName raw with
      | none => simp only [Sys.apply, Sys.rpc, hp]; exact h0
      | some n =>
        cases hf : sys.findSub n with
        | none => simp only [Sys.apply, Sys.rpc, hp, hf]; exact h0
        | some e =>
          simp only [Sys.apply, Sys.rpc, hp, hf]
          have hd := subTurn_data sys e.sid (.pull (i32AsU16 mx) sys.clock) (by simp)
          split
          · exact hreq _ _ _ h0 hd
          · -- the Pull may block
            rename_i hblocked
            obtain rfl : ri = false := by
              cases ri with
              | false => rfl
              | true => simp at hblocked
            have h1 := hbare sys _ raw mx n e rfl hp hf h0 rfl hd
            have hb : ∀ s, P s → s.streams.map Stream.shape = sys.streams.map Stream.shape →
                P (s.subTurn e.sid (.pull (i32AsU16 mx) s.clock)).1 :=
              fun s h hs => hbare s _ raw mx n e rfl hp hf h hs (subTurn_data s _ _ (by simp))
            split
            · exact hb _ h1 hd.shape
            · (repeat' split) <;> first
                | exact hto _ _ _ _ (Nat.le_refl _) h1
                | exact hb _ (hto _ _ _ _ (Nat.le_of_lt ‹_›) h1) ((advanceTo_data _ _ _ _).shape.trans hd.shape)
    | ack raw ids =>
      dsimp only [Sys.apply, Sys.rpc]
      (repeat' split) <;> dsimp only <;> first | exact h0 | exact hsub _ _ _ (by simp) h0
    | modAck raw secs ids =>
      dsimp only [Sys.apply, Sys.rpc]
      (repeat' split) <;> dsimp only <;> first | exact h0 | exact hreq _ _ _ h0 (subTurn_data _ _ _ (by simp))
    | unimplemented => exact h0
  | advance d =>
    dsimp only [Sys.apply, Sys.advance]
    split
    · exact hclk sys _ h0 (Nat.le_add_right _ _) (Nat.le_max_right _ _)
    · exact hto _ _ _ _ (Nat.le_refl _) (hclk sys _ h0 (ceilMs_ge _) (Nat.le_trans (Nat.not_lt.mp ‹_›) (Nat.le_max_right _ _)))
  | streamOpen k raw mm =>
    dsimp only [Sys.apply, Sys.streamOpen]
    split
    · exact h0
    · split
      · exact h0
      · split
        · exact h0
        · split
          · exact hopen ⟨k, _, _, [], false, true⟩ _ (subTurn_data _ _ _ (by simp))
          · exact hopen ⟨k, _, _, [], false, true⟩ _ ((subTurn_data _ _ _ (by simp)).streams _
              (map_map_of_key (fun x => by split <;> rfl) _))
  | streamSend k c =>
    dsimp only [Sys.apply, Sys.streamSend]
    split
    · exact h0
    · split
      · exact h0
      · split
        · exact hedit _ (.streams _) rfl (fun x => by split <;> rfl) (fun x => by split <;> simp)
        · split <;> split
          · exact h0
          · exact hsub _ _ _ (by simp) h0
          · exact hsub _ _ _ (by simp) h0
          · exact hsub _ _ _ (by simp) (hsub _ _ _ (by simp) h0)
  | streamRead k =>
    dsimp only [Sys.apply, Sys.streamRead]
    split
    · exact h0
    · exact hedit _ (.streams _) rfl (fun x => by split <;> rfl) (fun x => by split <;> simp)
  | streamCloseReq k => exact hedit _ (.streams _) rfl (fun x => by split <;> rfl) (fun x => by split <;> simp)
  | streamDrop k =>
    exact hctl _ (.streams _) (fun h => h.sublist (List.filter_sublist.map _))
      (fun s hs hend => ⟨s, (List.mem_filter.mp hs).1, hend, rfl⟩)

theorem apply_factor (sys : Sys) (op : SysOp) :
    ∃ mid, sys.Ctl op mid ∧ Sys.Data (fun _ => True) (sys.mayWaitUntil op) mid (sys.apply op) :=
  apply_ind (P := fun x => ∃ mid, sys.Ctl op mid ∧ Sys.Data (fun _ => True) (sys.mayWaitUntil op) mid x) sys op
    (fun mid hc _ _ => ⟨mid, hc, .refl⟩)
    (fun _ _ hd => ⟨_, .streams _, (hd.trans (drainSub_data _ _)).weaken⟩)
    (fun _ _ _ ⟨mid, hc, h⟩ hd => ⟨mid, hc, h.trans (hd.trans (drainSub_data _ _)).weaken⟩)
    (fun _ c ⟨mid, hc, h⟩ h1 h2 => ⟨mid, hc, h.clock c h1 h2⟩)
    (fun _ _ _ _ _ _ _ _ _ ⟨mid, hc, h⟩ _ hd => ⟨mid, hc, h.trans hd.weaken⟩)

theorem apply_clock (sys : Sys) (op : SysOp) :
    sys.clock ≤ (sys.apply op).clock ∧ (sys.apply op).clock ≤ max sys.clock (sys.mayWaitUntil op) := by
  obtain ⟨mid, hc, hd⟩ := apply_factor sys op
  rw [← hc.clock]
  exact ⟨hd.clock_ge, hd.clock_le⟩

end Deltio
