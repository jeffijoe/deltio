import Deltio.Model.Deadline
/-
  Bounds on the functions of Model/Deadline: the timer grid `ceilMs`, the number of messages a pull hands
  out, the effective ack deadline. (Those on `roundDeadline` are `C04_round_bounds`.)
-/
namespace Deltio

theorem ceilMs_ge (d : Nat) : d ≤ ceilMs d := by unfold ceilMs; omega

theorem ceilMs_mono {a b : Nat} (h : a ≤ b) : ceilMs a ≤ ceilMs b := by
  unfold ceilMs
  have : (a + 999) / 1000 ≤ (b + 999) / 1000 := Nat.div_le_div_right (by omega)
  exact Nat.mul_le_mul_right 1000 this

theorem pullCount_pos (max16 : Nat) {backlogLen : Nat} (h : 0 < backlogLen) : 0 < pullCount max16 backlogLen :=
  Nat.lt_min.mpr ⟨h, Nat.le_max_right _ 1⟩

theorem pullCount_le (max16 n : Nat) : pullCount max16 n ≤ max max16 1 :=
  Nat.le_trans (Nat.min_le_right _ _)
    (Nat.max_le.mpr ⟨Nat.le_trans (Nat.min_le_left _ _) (Nat.le_max_left _ _), Nat.le_max_right _ _⟩)

theorem effAck_pos (a : Int) : 0 < effAckDeadlineSecs a * 1000000 := by
  have : 10 ≤ effAckDeadlineSecs a := by unfold effAckDeadlineSecs; split <;> omega
  omega

end Deltio
