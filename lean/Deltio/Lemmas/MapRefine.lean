import Deltio.Lemmas.MapSpec
import Deltio.Lemmas.SysInv
import Deltio.Lemmas.Parse
/- Ten of the fourteen requests edit no namespace: only their answers are compared. The four edits carry the proof. -/
namespace Deltio

def Refines (sys : Sys) (r : Req) : Prop :=
  (sys.rpc r).1.abs = (sys.abs.apply r).1 ∧ classOf (sys.rpc r).2 = (sys.abs.apply r).2

theorem abs_apply_data (sys : Sys) (op : SysOp) (h : ∀ mid, sys.Ctl op mid → mid.abs = sys.abs) :
    (sys.apply op).abs = sys.abs := by
  obtain ⟨mid, hc, hd⟩ := apply_factor sys op
  rw [abs_of_skel' hd.skel]
  exact h mid hc

/-- For a request that edits no namespace the only control-plane edit left is Publish's, which moves a message counter. -/
theorem abs_rpc_of_not_edits (sys : Sys) (r : Req) (hr : r.edits = false) : (sys.rpc r).1.abs = sys.abs := by
  refine abs_apply_data sys (.rpc r) (fun mid hc => ?_)
  cases hc with
  | none | streams => rfl
  | publish k => exact abs_congr (map_map_of_key (fun x => by split <;> rfl) _) rfl
  | createTopic | deleteTopic | createSub | deleteSub => cases hr

theorem refines_of_not_edits {sys : Sys} {r : Req} (hr : r.edits = false) (h : classOf (sys.rpc r).2 = (sys.abs.apply r).2) :
    Refines sys r :=
  ⟨by rw [Spec.apply_of_not_edits _ r hr, abs_rpc_of_not_edits sys r hr], h⟩

theorem refines_getTopic (sys : Sys) (raw : Bytes) : Refines sys (.getTopic raw) := by
  refine refines_of_not_edits rfl ?_
  simp only [Sys.rpc, Spec.apply, contains_abs]
  cases parseTopicName raw with
  | none => rfl
  | some n =>
    dsimp only
    cases hf : sys.findTopic n with
    | none => rfl
    | some t => simp only [Option.isSome_some, if_true, classOf, (findTopic_some hf).2]

theorem refines_publish (sys : Sys) (raw : Bytes) (msgs) : Refines sys (.publish raw msgs) := by
  refine refines_of_not_edits rfl ?_
  simp only [Sys.rpc, Spec.apply, contains_abs]
  cases parseTopicName raw with
  | none => rfl
  | some n => dsimp only; cases sys.findTopic n <;> rfl

theorem accepted_ite {c : Prop} [Decidable c] {a b : Sys × Resp} (ha : classOf a.2 = .accepted) (hb : classOf b.2 = .accepted) :
    classOf (if c then a else b).2 = .accepted := by
  split <;> assumption

theorem refines_pull (sys : Sys) (raw : Bytes) (mx : Int) (ri : Bool) : Refines sys (.pull raw mx ri) := by
  refine refines_of_not_edits rfl ?_
  simp only [Sys.rpc, Spec.apply, findSub_abs]
  cases parseSubName raw with
  | none => rfl
  | some n =>
    dsimp only
    cases sys.findSub n with
    | none => rfl
    | some e =>
      -- whichever way the handler returns, it answers with messages
      simp only [Option.map_some, Option.isSome_some, if_true]
      refine accepted_ite rfl (accepted_ite rfl ?_)
      split
      · exact accepted_ite rfl rfl
      · rfl

theorem refines_ack (sys : Sys) (raw : Bytes) (ids : List Bytes) : Refines sys (.ack raw ids) := by
  refine refines_of_not_edits rfl ?_
  simp only [Sys.rpc, Spec.apply, findSub_abs]
  cases parseAckIds ids with
  | none => rfl
  | some as =>
    dsimp only
    cases parseSubName raw with
    | none => rfl
    | some n => dsimp only; cases sys.findSub n <;> rfl

theorem refines_modAck (sys : Sys) (raw : Bytes) (secs : Int) (ids : List Bytes) : Refines sys (.modAck raw secs ids) := by
  refine refines_of_not_edits rfl ?_
  simp only [Sys.rpc, Spec.apply, findSub_abs]
  -- the two sides parse the deadlines at different clocks; only success matters
  have hs := parseMods_isSome sys.clock ids (ids.map (fun _ => secs))
  cases hm : parseMods sys.clock ids (ids.map (fun _ => secs)) <;>
    cases h0 : parseMods 0 ids (ids.map (fun _ => secs)) <;> rw [hm, h0] at hs <;> first | cases hs | skip
  · rfl
  · dsimp only
    cases parseSubName raw with
    | none => rfl
    | some n => dsimp only; cases sys.findSub n <;> rfl

theorem refines_getSub (sys : Sys) (raw : Bytes) : Refines sys (.getSub raw) := by
  refine refines_of_not_edits rfl ?_
  simp only [Sys.rpc, Spec.apply, findSub_abs]
  cases parseSubName raw with
  | none => rfl
  | some n =>
    dsimp only
    cases hf : sys.findSub n with
    | none => rfl
    | some e => simp only [Option.map_some, classOf, subRes_eq, (findSub_some hf).2]

theorem page_map {α β} (p : Paging) (f : α → β) (xs : List α) : p.page (xs.map f) = (p.page xs).map f := by
  simp [Paging.page, List.map_take, List.map_drop]

theorem listPage_map {α β} (p : Paging) (f : α → β) (xs : List α) :
    Sys.listPage (xs.map f) p = ((Sys.listPage xs p).1.map f, (Sys.listPage xs p).2) := by
  simp [Sys.listPage, page_map]

theorem refines_listTopics (sys : Sys) (project : Bytes) (size : Int) (token : Bytes) : Refines sys (.listTopics project size token) := by
  refine refines_of_not_edits rfl ?_
  dsimp only [Sys.rpc, Spec.apply]
  cases parsePaging size (bytesToNats token) with
  | none => rfl
  | some p =>
    dsimp only
    cases parseProject project with
    | none => rfl
    | some proj =>
      simp only [classOf, Sys.abs, List.filter_map, List.map_map]
      rfl

theorem refines_listSubs (sys : Sys) (project : Bytes) (size : Int) (token : Bytes) : Refines sys (.listSubs project size token) := by
  refine refines_of_not_edits rfl ?_
  dsimp only [Sys.rpc, Spec.apply]
  cases parsePaging size (bytesToNats token) with
  | none => rfl
  | some p =>
    dsimp only
    cases parseProject project with
    | none => rfl
    | some proj =>
      have : sys.abs.subs.filter (fun kr => kr.1.1 == proj) =
          (sys.subs.filter (fun e => e.name.1 == proj)).map (fun e => (e.name, specOf sys.topics e)) := by
        simp only [Sys.abs, List.filter_map]
        rfl
      simp only [classOf, this, listPage_map, List.map_map]
      congr 1
      exact List.map_congr_left (fun e _ => subRes_eq sys e)

theorem refOf_self {sys : Sys} (h : SysInv sys) {t : TopicEnt} (ht : t ∈ sys.topics) : refOf sys.topics t.tid = some t.name := by
  unfold refOf
  rw [find?_key_of_nodup (f := fun x : TopicEnt => x.tid) (h.keys.2.2.1.imp Nat.ne_of_lt) ht]
  rfl

theorem refOf_beq {sys : Sys} (h : SysInv sys) {t : TopicEnt} (ht : t ∈ sys.topics) (k : Nat) :
    (refOf sys.topics k == some t.name) = (k == t.tid) := by
  by_cases hk : k = t.tid
  · rw [beq_iff_eq.mpr hk, hk, refOf_self h ht, beq_self_eq_true]
  · rw [beq_eq_false_iff_ne.mpr hk, beq_eq_false_iff_ne]
    intro hr
    unfold refOf at hr
    cases hf : sys.topics.find? (·.tid == k) with
    | none => rw [hf] at hr; cases hr
    | some t' =>
      rw [hf] at hr
      have hp : t'.tid = k := by simpa using List.find?_some hf
      have hn : t'.name = t.name := by simpa using hr
      exact hk (by rw [← hp, eq_of_nodup_map h.keys.1 (List.mem_of_find?_eq_some hf) ht hn])

theorem refOf_filter_ne (tid : Nat) (topics : List TopicEnt) (k : Nat) :
    refOf (topics.filter (·.tid != tid)) k = if k == tid then none else refOf topics k := by
  rw [refOf_eq_alookup, refOf_eq_alookup, ← alookup_filter_ne, List.filter_map]
  rfl

theorem refOf_append_fresh (topics : List TopicEnt) (x : TopicEnt) (k : Nat) (hk : k ≠ x.tid) :
    refOf (topics ++ [x]) k = refOf topics k := by
  rw [refOf_eq_alookup, List.map_append, alookup_append, ← refOf_eq_alookup]
  show (refOf topics k).or (if x.tid == k then some x.name else none) = _
  rw [if_neg (by simpa using Ne.symm hk), Option.or_none]

theorem refines_createTopic (sys : Sys) (h : SysInv sys) (raw : Bytes) : Refines sys (.createTopic raw) := by
  unfold Refines
  simp only [Sys.rpc, Spec.apply, contains_abs]
  cases parseTopicName raw with
  | none => exact ⟨rfl, rfl⟩
  | some n =>
    dsimp only
    cases sys.findTopic n with
    | some t => exact ⟨rfl, rfl⟩
    | none =>
      refine ⟨?_, rfl⟩
      simp only [Option.isSome_none, Bool.false_eq_true, if_false, Sys.abs, List.map_append, List.map_cons, List.map_nil]
      congr 1
      apply List.map_congr_left
      intro e he
      -- no subscription carries the new id yet
      have := (h.sbound ⟨e.sid, e.name, e.topicId, e.push⟩ (List.mem_map.mpr ⟨e, he, rfl⟩)).2
      simp only [specOf]
      rw [refOf_append_fresh]
      show e.topicId ≠ sys.nextTopic + 1
      exact Nat.ne_of_lt (Nat.lt_succ_of_le this)

theorem refines_deleteTopic (sys : Sys) (h : SysInv sys) (raw : Bytes) : Refines sys (.deleteTopic raw) := by
  unfold Refines
  simp only [Sys.rpc, Spec.apply, contains_abs]
  cases parseTopicName raw with
  | none => exact ⟨rfl, rfl⟩
  | some n =>
    dsimp only
    cases hf : sys.findTopic n with
    | none => exact ⟨rfl, rfl⟩
    | some t =>
      obtain ⟨ht, rfl⟩ := findTopic_some hf
      refine ⟨?_, rfl⟩
      simp only [Option.isSome_some, if_true, Sys.abs]
      congr 1
      · rw [List.filter_map, filter_ne_key (h.keys.2.2.1.imp Nat.ne_of_lt) h.keys.1 ht]
        rfl
      · simp only [List.map_map]
        apply List.map_congr_left
        intro e _
        simp only [Function.comp, specOf, refOf_filter_ne, refOf_beq h ht]
        split <;> rfl

theorem refines_listTopicSubs (sys : Sys) (h : SysInv sys) (raw : Bytes) (size : Int) (token : Bytes) :
    Refines sys (.listTopicSubs raw size token) := by
  refine refines_of_not_edits rfl ?_
  simp only [Sys.rpc, Spec.apply, contains_abs]
  cases parseTopicName raw with
  | none => rfl
  | some n =>
    dsimp only
    cases parsePaging size (bytesToNats token) with
    | none => rfl
    | some p =>
      dsimp only
      cases hf : sys.findTopic n with
      | none => rfl
      | some t =>
        obtain ⟨ht, rfl⟩ := findTopic_some hf
        -- the topic's own list is the subscriptions that refer to it
        have hl : sys.abs.subs.filter (fun kr => kr.2.topic == some t.name) =
            (sys.subs.filter (fun e => e.topicId == t.tid)).map (fun e => (e.name, specOf sys.topics e)) := by
          simp only [Sys.abs, List.filter_map]
          congr 1
          exact List.filter_congr (fun e _ => refOf_beq h ht e.topicId)
        simp only [Option.isSome_some, if_true, classOf, h.attached ht, hl, List.map_map]
        rfl

theorem refines_deleteSub (sys : Sys) (h : SysInv sys) (raw : Bytes) : Refines sys (.deleteSub raw) := by
  unfold Refines
  simp only [Sys.rpc, Spec.apply, findSub_abs]
  cases parseSubName raw with
  | none => exact ⟨rfl, rfl⟩
  | some n =>
    dsimp only
    cases hf : sys.findSub n with
    | none => exact ⟨rfl, rfl⟩
    | some e =>
      obtain ⟨he, rfl⟩ := findSub_some hf
      refine ⟨?_, rfl⟩
      -- erasing the name from a topic's list changes no (id, name)
      refine Eq.trans (b := ({ sys with subs := sys.subs.filter (·.sid != e.sid) } : Sys).abs)
        (abs_congr (map_map_of_key (fun x => by split <;> rfl) _) rfl) ?_
      simp only [Option.map_some, Sys.abs, List.filter_map, filter_ne_key (h.keys.2.2.2.imp Nat.ne_of_lt) h.keys.2.1 he]
      rfl

/-! CreateSubscription: the push configuration is parsed inside a `match` that differs between `Sys.rpc`
    and `Spec.apply` only by name, so the rest of either handler gets a name and the two are compared once,
    for a configuration that is a variable. -/

def Sys.createSubAt (sys : Sys) (tn sn : Name) (secs : Nat) (pc : Option PushCfg) : Sys × Resp :=
  match sys.findTopic tn with
  | none => (sys, .err .notFound)
  | some t =>
    if t.name.1 != sn.1 then (sys, .err .invalidArgument)
    else match sys.findSub sn with
      | some _ => (sys, .err .alreadyExists)
      | none =>
        let e : SubEnt := { sid := sys.nextSub + 1, name := sn, topicId := t.tid, ackSecs := secs, push := pc,
                            st := SubState.init (secs * 1000000) }
        let sys' : Sys :=
          { sys with
            nextSub := sys.nextSub + 1, subs := sys.subs ++ [e], registry := regAfter sn sys.registry pc
            topics := sys.topics.map (fun x =>
              if x.tid == t.tid then
                (if (alookup sn x.subs).isSome then x else { x with subs := x.subs ++ [(sn, sys.nextSub + 1)] })
              else x) }
        (sys', .sub (sys'.subRes e))

def Spec.createSubAt (s : Spec) (tn sn : Name) (secs : Nat) (pc : Option PushCfg) : Spec × RClass :=
  if !s.topics.contains tn then (s, .err .notFound)
  else if tn.1 != sn.1 then (s, .err .invalidArgument)
  else match alookup sn s.subs with
    | some _ => (s, .err .alreadyExists)
    | none =>
      let r : SpecSub := { topic := some tn, ackSecs := secs, push := pc }
      ({ s with subs := s.subs ++ [(sn, r)] }, .sub (r.res sn))

/-- Appending a subscription created on the live topic `t`: registry, counter and what else changes in the
    topic entries do not matter, as long as their ids and names stay. -/
theorem abs_addSub {sys : Sys} (h : SysInv sys) {t : TopicEnt} (ht : t ∈ sys.topics) (e : SubEnt) (he : e.topicId = t.tid)
    (topics' : List TopicEnt) (htop : topics'.map (fun t => (t.tid, t.name)) = sys.topics.map (fun t => (t.tid, t.name)))
    (nS : Nat) (reg : List (Name × PushCfg)) :
    let sys' : Sys := { sys with nextSub := nS, subs := sys.subs ++ [e], registry := reg, topics := topics' }
    sys'.abs = { sys.abs with subs := sys.abs.subs ++ [(e.name, { topic := some t.name, ackSecs := e.ackSecs, push := e.push })] } ∧
    classOf (.sub (sys'.subRes e)) = .sub (({ topic := some t.name, ackSecs := e.ackSecs, push := e.push } : SpecSub).res e.name) := by
  constructor
  · refine Eq.trans (b := ({ sys with subs := sys.subs ++ [e] } : Sys).abs) (abs_congr htop rfl) ?_
    simp only [Sys.abs, List.map_append, List.map_cons, List.map_nil, specOf, he, refOf_self h ht]
  · rw [subRes_eq]; simp only [specOf, refOf_congr htop, he, refOf_self h ht, classOf]

theorem refines_createSubAt (sys : Sys) (h : SysInv sys) (tn sn : Name) (secs : Nat) (pc : Option PushCfg) :
    (sys.createSubAt tn sn secs pc).1.abs = (sys.abs.createSubAt tn sn secs pc).1 ∧
    classOf (sys.createSubAt tn sn secs pc).2 = (sys.abs.createSubAt tn sn secs pc).2 := by
  simp only [Sys.createSubAt, Spec.createSubAt, contains_abs, findSub_abs]
  cases hf : sys.findTopic tn with
  | none => exact ⟨rfl, rfl⟩
  | some t =>
    obtain ⟨ht, rfl⟩ := findTopic_some hf
    dsimp only [Option.isSome_some, Bool.not_true]
    by_cases hproj : (t.name.1 != sn.1) = true
    · simp only [hproj, if_true]; exact ⟨rfl, rfl⟩
    · simp only [hproj, Bool.false_eq_true, if_false]
      cases sys.findSub sn with
      | some e => exact ⟨rfl, rfl⟩
      | none =>
        exact abs_addSub h ht ⟨_, _, _, _, _, _⟩ rfl _
          (map_map_of_key (fun x => by cases x.tid == t.tid <;> cases (alookup sn x.subs).isSome <;> rfl) _) _ _

theorem refines_createSub (sys : Sys) (h : SysInv sys) (rawN rawT : Bytes) (ack : Int) (push : Option PushCfg) :
    Refines sys (.createSub rawN rawT ack push) := by
  unfold Refines
  dsimp only [Sys.rpc, Spec.apply]
  cases parseTopicName rawT with
  | none => exact ⟨rfl, rfl⟩
  | some tn =>
    cases parseSubName rawN with
    | none => exact ⟨rfl, rfl⟩
    | some sn =>
      -- what is left of either handler unfolds to `createSubAt` at the parsed push configuration
      cases push with
      | none => exact refines_createSubAt sys h tn sn _ none
      | some p =>
        dsimp only
        cases parsePushCfg p with
        | none => exact ⟨rfl, rfl⟩
        | some c => exact refines_createSubAt sys h tn sn _ (some c)

theorem refines_all (sys : Sys) (h : SysInv sys) (r : Req) : Refines sys r := by
  cases r with
  | createTopic raw => exact refines_createTopic sys h raw
  | getTopic raw => exact refines_getTopic sys raw
  | deleteTopic raw => exact refines_deleteTopic sys h raw
  | listTopics p s t => exact refines_listTopics sys p s t
  | listTopicSubs raw s t => exact refines_listTopicSubs sys h raw s t
  | createSub n t a p => exact refines_createSub sys h n t a p
  | getSub raw => exact refines_getSub sys raw
  | listSubs p s t => exact refines_listSubs sys p s t
  | deleteSub raw => exact refines_deleteSub sys h raw
  | publish raw m => exact refines_publish sys raw m
  | pull raw m ri => exact refines_pull sys raw m ri
  | ack raw ids => exact refines_ack sys raw ids
  | modAck raw s ids => exact refines_modAck sys raw s ids
  | unimplemented => exact ⟨rfl, rfl⟩

theorem abs_apply (sys : Sys) (h : SysInv sys) (op : SysOp) : (sys.apply op).abs = sys.abs.applyOp op := by
  cases op with
  | rpc r => exact (refines_all sys h r).1
  | _ => exact abs_apply_data sys _ (fun _ hc => by cases hc <;> rfl)

theorem abs_execOps : ∀ (ops : List SysOp) (sys : Sys), SysInv sys → (sys.execOps ops).abs = sys.abs.run ops := by
  intro ops
  induction ops with
  | nil => intro sys _; rfl
  | cons op rest ih =>
    intro sys h
    simp only [Sys.execOps, Spec.run, List.foldl_cons]
    have := ih (sys.apply op) (SysInv_apply h op)
    simp only [Sys.execOps, Spec.run] at this
    rw [this, abs_apply sys h op]

end Deltio
