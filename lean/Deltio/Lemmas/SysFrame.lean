import Deltio.Model.System
import Deltio.Lemmas.List
import Deltio.Lemmas.Deadline
/-
  The data plane of the system model: `Sys.Data` is the closure of what the helpers through which a request
  reaches a subscription actor do, and what they leave alone is proved once, by induction on it.
-/
namespace Deltio

/-- Everything except subscription states / streams / clock / publish counter. -/
structure Skel where
  topics : List TopicEnt
  nextTopic : Nat
  subIds : List (Nat × Name × Nat × Nat × Option PushCfg)
  nextSub : Nat
  registry : List (Name × PushCfg)
deriving DecidableEq

def Sys.skel (sys : Sys) : Skel :=
  { topics := sys.topics, nextTopic := sys.nextTopic,
    subIds := sys.subs.map (fun e => (e.sid, e.name, e.topicId, e.ackSecs, e.push)),
    nextSub := sys.nextSub, registry := sys.registry }

def Sys.stateOf (sys : Sys) (sid : Nat) : Option SubState := (sys.findSubById sid).map (·.st)

def Stream.shape (x : Stream) : Nat × Nat × Bool := (x.k, x.sid, x.ended)

theorem stateOf_of_find {sys : Sys} {sid : Nat} {e : SubEnt} (h : sys.findSubById sid = some e) : sys.stateOf sid = some e.st := by
  simp [Sys.stateOf, h]

theorem find_of_stateOf {sys : Sys} {sid : Nat} {st : SubState} (h : sys.stateOf sid = some st) :
    ∃ e, sys.findSubById sid = some e ∧ e.st = st :=
  Option.map_eq_some_iff.mp h

theorem findSubById_setSubState (sys : Sys) (sid sid' : Nat) (st : SubState) :
    (sys.setSubState sid st).findSubById sid' =
      (sys.findSubById sid').map (fun e => if e.sid == sid then { e with st := st } else e) :=
  find?_map_of_key (fun x => by split <;> rfl) sys.subs

theorem stateOf_setSubState_ne (sys : Sys) {sid sid' : Nat} (st : SubState) (h : sid' ≠ sid) :
    (sys.setSubState sid st).stateOf sid' = sys.stateOf sid' := by
  unfold Sys.stateOf
  rw [findSubById_setSubState]
  cases hf : sys.findSubById sid' with
  | none => rfl
  | some e =>
    have : e.sid = sid' := by simpa using List.find?_some hf
    simp [this, h]

theorem findSubById_setSubState_self {sys : Sys} {sid : Nat} {e : SubEnt} (h : sys.findSubById sid = some e) (st : SubState) :
    (sys.setSubState sid st).findSubById sid = some { e with st := st } := by
  have : e.sid = sid := by simpa using List.find?_some h
  simp [findSubById_setSubState, h, this]

theorem setSubState_setSubState (sys : Sys) (sid : Nat) (a b : SubState) :
    (sys.setSubState sid a).setSubState sid b = sys.setSubState sid b := by
  simp only [Sys.setSubState, List.map_map]
  congr 1
  apply List.map_congr_left
  intro e _
  simp only [Function.comp]
  split <;> simp [*]

theorem max_le_max_left (c : Nat) {a b : Nat} (h : a ≤ b) : max c a ≤ max c b :=
  Nat.max_le.mpr ⟨Nat.le_max_left _ _, Nat.le_trans h (Nat.le_max_right _ _)⟩

/-- `Sys.Data A T a b`: the data plane leads from `a` to `b`, with turns only of subscriptions in `A` and the
    clock moved no further than `T`. -/
inductive Sys.Data (A : Nat → Prop) (T : Nat) (a : Sys) : Sys → Prop
  | refl : Sys.Data A T a a
  | turn {b : Sys} {sid : Nat} {e : SubEnt} (t : SubTurn) : Sys.Data A T a b → A sid → b.findSubById sid = some e →
      t ≠ .deleteBegin → t ≠ .deleteEnd → Sys.Data A T a (b.setSubState sid (e.st.turn t).1)
  | streams {b : Sys} (ss : List Stream) : Sys.Data A T a b → ss.map Stream.shape = b.streams.map Stream.shape →
      Sys.Data A T a { b with streams := ss }
  | clock {b : Sys} (c : Nat) : Sys.Data A T a b → b.clock ≤ c → c ≤ max b.clock T → Sys.Data A T a { b with clock := c }

namespace Sys.Data
variable {A : Nat → Prop} {T : Nat} {a b c : Sys}

theorem trans (h1 : Sys.Data A T a b) (h2 : Sys.Data A T b c) : Sys.Data A T a c := by
  induction h2 with
  | refl => exact h1
  | turn t _ hA hf h1 h2 ih => exact ih.turn t hA hf h1 h2
  | streams ss _ hs ih => exact ih.streams ss hs
  | clock c _ h1 h2 ih => exact ih.clock c h1 h2

theorem mono {A' : Nat → Prop} {T' : Nat} (h : Sys.Data A T a b) (hA : ∀ sid, A sid → A' sid) (hT : T ≤ T') :
    Sys.Data A' T' a b := by
  induction h with
  | refl => exact .refl
  | turn t _ hs hf h1 h2 ih => exact ih.turn t (hA _ hs) hf h1 h2
  | streams ss _ hs ih => exact ih.streams ss hs
  | clock c _ h1 h2 ih => exact ih.clock c h1 (Nat.le_trans h2 (max_le_max_left _ hT))

theorem weaken (h : Sys.Data A 0 a b) : Sys.Data (fun _ => True) T a b := h.mono (fun _ _ => trivial) (Nat.zero_le _)

theorem skel (h : Sys.Data A T a b) : b.skel = a.skel := by
  induction h with
  | refl => rfl
  | turn t _ _ _ _ _ ih =>
    rw [← ih]
    simp only [Sys.skel, Sys.setSubState]
    rw [map_map_of_key (fun e => by split <;> rfl)]
  | streams ss _ _ ih => exact ih
  | clock c _ _ _ ih => exact ih

theorem shape (h : Sys.Data A T a b) : b.streams.map Stream.shape = a.streams.map Stream.shape := by
  induction h with
  | refl => rfl
  | turn t _ _ _ _ _ ih => exact ih
  | streams ss _ hs ih => exact hs.trans ih
  | clock c _ _ _ ih => exact ih

theorem clock_ge (h : Sys.Data A T a b) : a.clock ≤ b.clock := by
  induction h with
  | refl => exact Nat.le_refl _
  | turn t _ _ _ _ _ ih => exact ih
  | streams ss _ _ ih => exact ih
  | clock c _ h1 _ ih => exact Nat.le_trans ih h1

theorem clock_le (h : Sys.Data A T a b) : b.clock ≤ max a.clock T := by
  induction h with
  | refl => exact Nat.le_max_left _ _
  | turn t _ _ _ _ _ ih => exact ih
  | streams ss _ _ ih => exact ih
  | clock c _ _ h2 ih => exact Nat.le_trans h2 (Nat.max_le.mpr ⟨ih, Nat.le_max_right _ _⟩)

theorem clock_eq (h : Sys.Data A 0 a b) : b.clock = a.clock :=
  Nat.le_antisymm (Nat.le_trans h.clock_le (Nat.max_le.mpr ⟨Nat.le_refl _, Nat.zero_le _⟩)) h.clock_ge

theorem other (h : Sys.Data A T a b) {sid : Nat} (hn : ¬ A sid) : b.stateOf sid = a.stateOf sid := by
  induction h with
  | refl => rfl
  | turn t _ hA _ _ _ ih => rw [← ih]; exact stateOf_setSubState_ne _ _ (fun hc => hn (hc ▸ hA))
  | streams ss _ _ ih => exact ih
  | clock c _ _ _ ih => exact ih

end Sys.Data

theorem subExpire_data (sys : Sys) (sid : Nat) : Sys.Data (· = sid) 0 sys (sys.subExpire sid) := by
  unfold Sys.subExpire
  split
  · exact .refl
  · rename_i e he
    exact Sys.Data.refl.turn _ rfl he (by simp) (by simp)

theorem subTurn_data (sys : Sys) (sid : Nat) (t : SubTurn) (ht : t ≠ .deleteBegin ∧ t ≠ .deleteEnd) :
    Sys.Data (· = sid) 0 sys (sys.subTurn sid t).1 := by
  unfold Sys.subTurn
  split
  · exact .refl
  · rename_i e he
    have h1 : Sys.Data (· = sid) 0 sys _ := Sys.Data.refl.turn t rfl he ht.1 ht.2
    have h2 := h1.turn (.expire sys.clock) rfl (findSubById_setSubState_self he _) (by simp) (by simp)
    rwa [setSubState_setSubState] at h2

-- the newer `split`: see Lemmas/SysStep.lean
set_option backward.split false in
theorem drainStream_data (k sid : Nat) : ∀ (fuel : Nat) (sys : Sys), Sys.Data (· = sid) 0 sys (drainStream k sid fuel sys)
  | 0, _ => .refl
  | fuel + 1, sys => by
    unfold drainStream
    split
    · exact .refl
    · split
      · exact .refl
      · split
        · exact .refl
        · split
          · exact .refl
          · rename_i s _ _ _ _ _ _
            refine Sys.Data.trans ((subTurn_data sys sid (.pull s.max16 sys.clock) (by simp)).streams _ ?_)
              (drainStream_data k sid fuel _)
            exact map_map_of_key (fun x => by split <;> rfl) _

theorem drainSub_data (sys : Sys) (sid : Nat) : Sys.Data (· = sid) 0 sys (sys.drainSub sid) := by
  unfold Sys.drainSub
  generalize (sys.streams.filter (fun s => s.sid == sid && !s.ended)) = l
  suffices ∀ acc, Sys.Data (· = sid) 0 sys acc →
      Sys.Data (· = sid) 0 sys (l.foldl (fun acc s => drainStream s.k sid (acc.subLoad sid) acc) acc) from this sys .refl
  induction l with
  | nil => exact fun _ h => h
  | cons s rest ih => exact fun acc h => ih _ (h.trans (drainStream_data _ _ _ _))

theorem subReq_data (sys : Sys) (sid : Nat) (t : SubTurn) (ht : t ≠ .deleteBegin ∧ t ≠ .deleteEnd) :
    Sys.Data (· = sid) 0 sys (sys.subReq sid t).1 :=
  (subTurn_data sys sid t ht).trans (drainSub_data _ sid)

theorem touch_data (sys : Sys) (sid : Nat) : Sys.Data (· = sid) 0 sys (sys.touch sid) :=
  (subExpire_data sys sid).trans (drainSub_data _ sid)

/-! `touchAll`, `postAll`, `advanceTo` iterate whole mailbox requests: the three lemmas below carry an
    invariant that single turns break (`DrainInv` of Lemmas/Drain) through these loops. -/

theorem touchAll_ind {P : Sys → Prop} (ht : ∀ s sid, P s → P (s.touch sid)) : ∀ (l : List Nat) (sys : Sys), P sys → P (sys.touchAll l)
  | [], _, h0 => h0
  | x :: rest, _, h0 => touchAll_ind ht rest _ (ht _ x h0)

theorem postAll_ind {P : Sys → Prop} (ms : List Msg) : ∀ (l : List (Name × Nat)) (sys : Sys),
    (∀ s, ∀ p ∈ l, P s → P (s.subReq p.2 (.post ms)).1) → P sys → P (sys.postAll ms l)
  | [], _, _, h0 => h0
  | x :: rest, _, h, h0 =>
    postAll_ind ms rest _ (fun s p hm => h s p (List.mem_cons_of_mem _ hm)) (h _ x List.mem_cons_self h0)

theorem advanceTo_ind {P : Sys → Prop} (frac target : Nat) (ht : ∀ s sid, P s → P (s.touch sid))
    (hc : ∀ (s : Sys) c, P s → s.clock ≤ c → c ≤ max s.clock target → P { s with clock := c }) :
    ∀ (fuel : Nat) (sys : Sys), P sys → P (Sys.advanceTo frac fuel target sys)
  | 0, sys, h0 => hc sys _ h0 (Nat.le_max_left _ _) (Nat.le_refl _)
  | fuel + 1, sys, h0 => by
    unfold Sys.advanceTo
    split
    · split
      · exact advanceTo_ind frac target ht hc fuel _ (ht _ _ (hc sys _ h0 (Nat.le_max_left _ _) (max_le_max_left _ ‹_›)))
      · exact hc sys _ h0 (Nat.le_max_left _ _) (Nat.le_refl _)
    · exact hc sys _ h0 (Nat.le_max_left _ _) (Nat.le_refl _)

theorem postAll_data (sys : Sys) (ms : List Msg) (l : List (Name × Nat)) :
    Sys.Data (· ∈ l.map (·.2)) 0 sys (sys.postAll ms l) :=
  postAll_ind ms l sys (fun _ p hm h => h.trans ((subReq_data _ p.2 _ (by simp)).mono
    (fun _ hx => hx ▸ List.mem_map_of_mem hm) (Nat.le_refl _))) .refl

theorem advanceTo_data (frac fuel target : Nat) (sys : Sys) :
    Sys.Data (fun _ => True) target sys (Sys.advanceTo frac fuel target sys) :=
  advanceTo_ind frac target (fun _ sid h => h.trans (touch_data _ sid).weaken)
    (fun _ c h h1 h2 => h.clock c h1 h2) fuel sys .refl

@[simp] theorem clock_setSubState (sys : Sys) (sid : Nat) (st : SubState) : (sys.setSubState sid st).clock = sys.clock := rfl

/-- The timer loop never moves the clock beyond its target. -/
theorem advanceTo_clock_le (frac : Nat) : ∀ (fuel target : Nat) (sys : Sys),
    (Sys.advanceTo frac fuel target sys).clock ≤ max sys.clock target :=
  fun fuel target sys => (advanceTo_data frac fuel target sys).clock_le

theorem advanceTo_clock_ge (frac : Nat) : ∀ (fuel target : Nat) (sys : Sys), target ≤ (Sys.advanceTo frac fuel target sys).clock := by
  intro fuel
  induction fuel with
  | zero => exact fun _ _ => Nat.le_max_right _ _
  | succ n ih =>
    intro target sys
    unfold Sys.advanceTo
    split
    · split
      · exact ih _ _
      · exact Nat.le_max_right _ _
    · exact Nat.le_max_right _ _

theorem skel_registry {a b : Sys} (h : a.skel = b.skel) : a.registry = b.registry := congrArg Skel.registry h

theorem skel_topics {a b : Sys} (h : a.skel = b.skel) : a.topics = b.topics := congrArg Skel.topics h

/-- Whatever is computed from the subscriptions without their actor states is fixed by the skeleton. -/
theorem skel_subs {a b : Sys} (h : a.skel = b.skel) {β} (g : Nat × Name × Nat × Nat × Option PushCfg → β) :
    a.subs.map (fun e => g (e.sid, e.name, e.topicId, e.ackSecs, e.push)) =
    b.subs.map (fun e => g (e.sid, e.name, e.topicId, e.ackSecs, e.push)) := by
  have := congrArg (fun k => k.subIds.map g) h
  simp only [Sys.skel, List.map_map] at this
  exact this

theorem sids_of_skel {a b : Sys} (h : b.skel = a.skel) : b.subs.map (·.sid) = a.subs.map (·.sid) :=
  skel_subs h (·.1)

theorem stateOf_isSome_of_skel {a b : Sys} (h : b.skel = a.skel) (sid : Nat) :
    (b.stateOf sid).isSome = (a.stateOf sid).isSome := by
  have key : ∀ sys : Sys, (sys.stateOf sid).isSome = true ↔ sid ∈ sys.subs.map (·.sid) := by
    intro sys
    rw [Sys.stateOf, Option.isSome_map, Sys.findSubById, List.find?_isSome, List.mem_map]
    exact ⟨fun ⟨x, hx, h⟩ => ⟨x, hx, by simpa using h⟩, fun ⟨x, hx, h⟩ => ⟨x, hx, by simpa using h⟩⟩
  rw [Bool.eq_iff_iff, key, key, sids_of_skel h]

end Deltio
