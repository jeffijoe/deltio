import Deltio.Proto.Wake
/- Slice P2, for every variant `step b r` in which a mailbox that can be full (`b`, `bounded`) belongs to the repaired actor loop (`r`, `renotify`). -/
namespace Deltio
open P2

/-- `w1`: a queued message has a wake-up token: the stored permit, a notified consumer, a pull request in
    the mailbox or, when the actor loop re-notifies after every request (`r`), any other request in the
    mailbox. `n1`: the permit is only stored while nobody is parked. -/
structure WakeInv (r : Bool) (s : State) : Prop where
  w1 : s.deleted = false → s.backlog > 0 → s.permit = true ∨ s.q + s.notif + (if r then s.other else 0) > 0
  n1 : s.permit = true → s.parked = 0

namespace WakeInv
variable {b r : Bool} {s s' : State} {c : Prop} [Decidable c]

theorem init : WakeInv r P2.init := ⟨nofun, nofun⟩

/-- `notify_one` creates a token whatever the state was; it stores the permit only if nobody is parked. -/
theorem notify (n1 : s.permit = true → s.parked = 0) : WakeInv r (notifyOne s) := by
  unfold notifyOne
  split
  · exact ⟨fun _ _ => .inr (by simp; omega), fun h => by simp [n1 h]⟩
  · exact ⟨fun _ _ => .inl rfl, fun _ => by simp; omega⟩

/-- A turn that notifies under condition `c` needs the invariant beforehand only when `c` fails. -/
theorem turn (n1 : s.permit = true → s.parked = 0) (h : ¬ c → WakeInv r s) :
    WakeInv r (if c then notifyOne s else s) := by
  split
  · exact notify n1
  · exact h ‹_›

theorem renotify (h : WakeInv r s) : WakeInv r (if c then notifyOne s else s) := turn h.n1 fun _ => h

theorem step (hbr : b = true → r = true) (h : WakeInv r s) (l : Label) (hs : P2.step b r s l = some s') :
    WakeInv r s' := by
  obtain ⟨w1, n1⟩ := h
  cases l <;> simp only [P2.step, Option.ite_none_left_eq_some, ← apply_ite some, Option.some.injEq, not_or,
    Bool.not_eq_true', Bool.not_eq_false, Bool.not_eq_true] at hs <;> obtain ⟨hg, rfl⟩ := hs
  -- actor turns: whichever token they consume, they notify unless the backlog is empty afterwards
  case post | requeue => exact renotify (notify n1)
  case pullTurn | pullZombie => exact renotify (turn n1 fun hc => ⟨fun _ hb => absurd hb hc, n1⟩)
  -- no notification although live with a backlog: `r = false`, and `other` counts for nothing
  case otherTurn => exact turn n1 fun hc => ⟨fun (hd : s.deleted = false) (hb : s.backlog > 0) => by
    obtain rfl : r = false := by simpa [hd, hb] using hc
    exact w1 hd hb, n1⟩
  -- a notified consumer that is dropped forwards its token
  case cancelNotified => exact notify n1
  -- a woken consumer blocks only behind a queued request, whose turn re-notifies (`b → r`)
  case block =>
    obtain rfl := hbr hg.1
    exact ⟨fun _ _ => .inr (by simp; omega), n1⟩
  case otherArrive => exact ⟨fun hd hb => (w1 hd hb).imp_right fun h => by cases r <;> simp at h ⊢ <;> omega, n1⟩
  -- the rest turns one token into another (`poll`: the permit into a queued pull, parking only without
  -- a permit), adds one, or happens after the deletion
  case cancelParked => exact ⟨w1, fun hp => by simp [n1 hp]⟩
  all_goals (repeat' split) <;> constructor <;> first | assumption | simp +arith [*]

theorem run (hbr : b = true → r = true) : ∀ (ls : List Label) {s s' : State}, WakeInv r s → P2.run b r s ls = some s' → WakeInv r s'
  | [], _, _, h, hr => Option.some.inj hr ▸ h
  | l :: ls, _, _, h, hr => by
    rw [P2.run] at hr
    split at hr
    · exact run hbr ls (h.step hbr l ‹_›) hr
    · cases hr

theorem no_lost_wakeup (hbr : b = true → r = true) {ls : List Label} (hr : P2.run b r P2.init ls = some s)
    (hq : Quiescent s) (hd : s.deleted = false) (hb : s.backlog > 0) : s.parked = 0 := by
  have h := run hbr ls init hr
  obtain ⟨hq1, _, _, hq4, _, hq6⟩ := hq
  refine h.n1 ((h.w1 hd hb).resolve_right ?_)
  rw [hq1, hq4, hq6]; simp

end WakeInv

end Deltio
