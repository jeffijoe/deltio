import Deltio.Model.Tracker
import Deltio.Lemmas.List
namespace Deltio

def KeySorted (l : List (Nat × Nat)) : Prop := l.Pairwise (fun a b => keyLt a b = true)

/-- The invariant behind the `unwrap_unchecked`s of `take_expired`. -/
structure Tracker.Inv (t : Tracker) : Prop where
  nodup : (t.msgs.map (·.ack)).Nodup
  sorted : KeySorted t.exps
  agree : ∀ k, k ∈ t.exps ↔ ∃ d ∈ t.msgs, d.key = k

theorem mem_insertKey {k k' : Nat × Nat} {l : List (Nat × Nat)} :
    k' ∈ insertKey k l ↔ k' = k ∨ k' ∈ l := by
  induction l with
  | nil => simp [insertKey]
  | cons x xs ih =>
    simp only [insertKey]
    split
    · simp
    · split
      · rename_i h; simp at h; subst h; simp
      · rw [List.mem_cons, ih, List.mem_cons]; exact or_left_comm

theorem keyLt_iff {a b : Nat × Nat} : keyLt a b = true ↔ a.1 < b.1 ∨ (a.1 = b.1 ∧ a.2 < b.2) := by
  simp [keyLt]

theorem keyLt_trans {a b c : Nat × Nat} (h1 : keyLt a b = true) (h2 : keyLt b c = true) : keyLt a c = true := by
  rw [keyLt_iff] at *
  rcases h1 with h1 | ⟨e1, h1⟩
  · exact .inl (Nat.lt_of_lt_of_le h1 (h2.elim Nat.le_of_lt fun h => Nat.le_of_eq h.1))
  · rw [e1]
    exact h2.imp_right (.imp_right (Nat.lt_trans h1))

theorem keyLt_fst_le {a b : Nat × Nat} (h : keyLt a b = true) : a.1 ≤ b.1 :=
  (keyLt_iff.mp h).elim Nat.le_of_lt fun h => Nat.le_of_eq h.1

theorem keyLt_irrefl (a : Nat × Nat) : keyLt a a = false := by simp [keyLt]

theorem keyLt_total {a b : Nat × Nat} (h1 : ¬keyLt a b = true) (h2 : a ≠ b) : keyLt b a = true := by
  rw [keyLt_iff] at *
  rcases Nat.lt_trichotomy a.1 b.1 with h | h | h
  · exact absurd (.inl h) h1
  · rcases Nat.lt_trichotomy a.2 b.2 with h' | h' | h'
    · exact absurd (.inr ⟨h, h'⟩) h1
    · exact absurd (Prod.ext h h') h2
    · exact .inr ⟨h.symm, h'⟩
  · exact .inl h

theorem sorted_insertKey (k : Nat × Nat) (l : List (Nat × Nat)) (h : KeySorted l) : KeySorted (insertKey k l) := by
  induction l with
  | nil => exact List.pairwise_singleton _ _
  | cons x xs ih =>
    obtain ⟨hx, hxs⟩ := List.pairwise_cons.mp h
    simp only [insertKey]
    split
    · rename_i hlt
      refine List.pairwise_cons.mpr ⟨fun y hy => ?_, h⟩
      rcases List.mem_cons.mp hy with rfl | hy
      · exact hlt
      · exact keyLt_trans hlt (hx y hy)
    · split
      · exact h
      · rename_i hnlt hne
        refine List.pairwise_cons.mpr ⟨fun y hy => ?_, ih hxs⟩
        rcases mem_insertKey.mp hy with rfl | hy
        · exact keyLt_total hnlt fun he => hne (he ▸ beq_self_eq_true _)
        · exact hx y hy

theorem mem_eraseKey {k k' : Nat × Nat} {l : List (Nat × Nat)} : k' ∈ eraseKey k l ↔ k' ∈ l ∧ k' ≠ k :=
  List.mem_filter.trans (and_congr_right fun _ => bne_iff_ne)

theorem sorted_eraseKey (k : Nat × Nat) (l : List (Nat × Nat)) (h : KeySorted l) : KeySorted (eraseKey k l) := by
  unfold KeySorted eraseKey at *
  exact h.sublist List.filter_sublist

theorem eraseKey_head (k : Nat × Nat) (l : List (Nat × Nat)) (h : KeySorted (k :: l)) : eraseKey k (k :: l) = l := by
  have hl : ∀ y ∈ l, (y != k) = true := fun y hy => bne_iff_ne.mpr fun he => by
    have := (List.pairwise_cons.mp h).1 y hy
    rw [he, keyLt_irrefl] at this; cases this
  simp [eraseKey, List.filter_eq_self.mpr hl]

theorem mem_eraseMsg {msgs : List Deliv} {a : Nat} {d : Deliv} :
    d ∈ Tracker.eraseMsg msgs a ↔ d ∈ msgs ∧ d.ack ≠ a :=
  List.mem_filter.trans (and_congr_right fun _ => bne_iff_ne)

theorem ack_unique {msgs : List Deliv} (h : (msgs.map (·.ack)).Nodup) {d d' : Deliv}
    (hd : d ∈ msgs) (hd' : d' ∈ msgs) (he : d.ack = d'.ack) : d = d' :=
  eq_of_nodup_map h hd hd' he

theorem eraseMsg_eq_erase {msgs : List Deliv} (hn : (msgs.map (·.ack)).Nodup) {d : Deliv} (hd : d ∈ msgs) :
    Tracker.eraseMsg msgs d.ack = msgs.erase d := by
  have hnd : msgs.Nodup := List.Pairwise.of_map (fun x : Deliv => x.ack) (fun _ _ h e => h (e ▸ rfl)) hn
  rw [hnd.erase_eq_filter]
  refine List.filter_congr fun x hx => ?_
  by_cases hxd : x = d
  · simp [hxd]
  · have : x.ack ≠ d.ack := fun e => hxd (ack_unique hn hx hd e)
    exact (bne_iff_ne.mpr this).trans (bne_iff_ne.mpr hxd).symm

theorem eraseMsg_perm {msgs : List Deliv} (hn : (msgs.map (·.ack)).Nodup) {d : Deliv} (hd : d ∈ msgs) :
    (d :: Tracker.eraseMsg msgs d.ack).Perm msgs :=
  eraseMsg_eq_erase hn hd ▸ (List.perm_cons_erase hd).symm

theorem lookup_some {t : Tracker} {a : Nat} {d : Deliv} (h : t.lookup a = some d) : d ∈ t.msgs ∧ d.ack = a :=
  ⟨List.mem_of_find?_eq_some h, by simpa using List.find?_some h⟩

theorem lookup_eq_none_iff {t : Tracker} {a : Nat} : t.lookup a = none ↔ ∀ d ∈ t.msgs, d.ack ≠ a :=
  List.find?_eq_none.trans (forall₂_congr fun _ _ => not_congr beq_iff_eq)

theorem lookup_of_mem {t : Tracker} (hn : (t.msgs.map (·.ack)).Nodup) {d : Deliv} (hd : d ∈ t.msgs) :
    t.lookup d.ack = some d := by
  cases h : t.lookup d.ack with
  | none => exact absurd rfl (lookup_eq_none_iff.mp h d hd)
  | some d' => rw [ack_unique hn (lookup_some h).1 hd (lookup_some h).2]

theorem Inv_empty : Tracker.empty.Inv := by
  constructor <;> simp [Tracker.empty, KeySorted]

theorem Inv_removeOne {t : Tracker} (h : t.Inv) {d : Deliv} (hd : d ∈ t.msgs) :
    ({ msgs := Tracker.eraseMsg t.msgs d.ack, exps := eraseKey d.key t.exps } : Tracker).Inv := by
  refine ⟨h.nodup.sublist (List.filter_sublist.map _), sorted_eraseKey _ _ h.sorted, fun k => ?_⟩
  rw [mem_eraseKey, h.agree]
  constructor
  · rintro ⟨⟨x, hx, rfl⟩, hne⟩
    exact ⟨x, mem_eraseMsg.mpr ⟨hx, fun hc => hne (by rw [ack_unique h.nodup hx hd hc])⟩, rfl⟩
  · rintro ⟨x, hx, rfl⟩
    obtain ⟨hx, hne⟩ := mem_eraseMsg.mp hx
    exact ⟨⟨x, hx, rfl⟩, fun hc => hne (congrArg Prod.snd hc)⟩

/-- The invariant reads the deliveries up to their order: a delivery with a fresh ack id comes in, wherever it is put. -/
theorem Inv_insert {t : Tracker} (h : t.Inv) {d : Deliv} (hfresh : ∀ x ∈ t.msgs, x.ack ≠ d.ack) {ms : List Deliv}
    (hp : ms.Perm (d :: t.msgs)) : ({ msgs := ms, exps := insertKey d.key t.exps } : Tracker).Inv := by
  refine ⟨(hp.map _).nodup_iff.mpr (List.nodup_cons.mpr ⟨fun hm => ?_, h.nodup⟩), sorted_insertKey _ _ h.sorted, fun k => ?_⟩
  · obtain ⟨x, hx, e⟩ := List.mem_map.mp hm
    exact hfresh x hx e
  · rw [mem_insertKey, h.agree]
    simp only [hp.mem_iff, List.mem_cons, or_and_right, exists_or, exists_eq_left]
    exact or_congr_left eq_comm

theorem add_spec {t : Tracker} (h : t.Inv) (d : Deliv) (hfresh : ∀ x ∈ t.msgs, x.ack ≠ d.ack) :
    (t.add d).Inv ∧ (t.add d).msgs = t.msgs ++ [d] := by
  have he : Tracker.eraseMsg t.msgs d.ack = t.msgs := List.filter_eq_self.mpr fun x hx => by simpa using hfresh x hx
  unfold Tracker.add
  rw [he]
  exact ⟨Inv_insert h hfresh (List.perm_append_singleton ..), rfl⟩

/-- The way `modify` sets a delivery: taking `d` out and putting `d'` in. -/
theorem map_set_perm {msgs : List Deliv} (hn : (msgs.map (·.ack)).Nodup) {d : Deliv} (hd : d ∈ msgs) (d' : Deliv) :
    (msgs.map fun x => if x.ack == d.ack then d' else x).Perm (d' :: Tracker.eraseMsg msgs d.ack) := by
  refine ((eraseMsg_perm hn hd).symm.map _).trans (.of_eq ?_)
  rw [List.map_cons, if_pos (beq_self_eq_true _)]
  exact congrArg _ ((List.map_congr_left fun x hx => if_neg (mt beq_iff_eq.mp (mem_eraseMsg.mp hx).2)).trans (List.map_id' _))

theorem Inv_modifyOne {t : Tracker} (h : t.Inv) {d : Deliv} (hd : d ∈ t.msgs) (dl : Nat) :
    ({ msgs := t.msgs.map (fun x => if x.ack == d.ack then { d with deadline := dl } else x),
       exps := insertKey ({ d with deadline := dl } : Deliv).key (eraseKey d.key t.exps) } : Tracker).Inv :=
  Inv_insert (Inv_removeOne h hd) (d := { d with deadline := dl }) (fun _ hx => (mem_eraseMsg.mp hx).2) (map_set_perm h.nodup hd _)

theorem nextExpiration_mem {t : Tracker} (h : t.Inv) {e : Nat} (hn : t.nextExpiration = some e) :
    ∃ d ∈ t.msgs, d.deadline = e := by
  unfold Tracker.nextExpiration at hn
  cases hx : t.exps with
  | nil => rw [hx] at hn; cases hn
  | cons k rest =>
    rw [hx] at hn; cases hn
    obtain ⟨d, hd, hk⟩ := (h.agree k).mp (hx ▸ List.mem_cons_self)
    exact ⟨d, hd, hk ▸ rfl⟩

theorem nextExpiration_le {t : Tracker} (h : t.Inv) : ∀ d ∈ t.msgs, ∃ e, t.nextExpiration = some e ∧ e ≤ d.deadline := by
  intro d hd
  have hk := (h.agree d.key).mpr ⟨d, hd, rfl⟩
  unfold Tracker.nextExpiration
  cases he : t.exps with
  | nil => rw [he] at hk; cases hk
  | cons k ks =>
    refine ⟨k.1, rfl, ?_⟩
    -- the head key is the least
    rcases List.mem_cons.mp (he ▸ hk) with hk | hk
    · rw [← hk]; exact Nat.le_refl _
    · have hs : KeySorted (k :: ks) := he ▸ h.sorted
      exact keyLt_fst_le (b := d.key) ((List.pairwise_cons.mp hs).1 _ hk)

theorem remove_spec : ∀ (ids : List Nat) {t : Tracker}, t.Inv →
    (t.remove ids).1.Inv ∧ ((t.remove ids).1.msgs ++ (t.remove ids).2).Perm t.msgs := by
  intro ids
  induction ids with
  | nil => intro t h; exact ⟨h, by simp [Tracker.remove]⟩
  | cons a rest ih =>
    intro t h
    unfold Tracker.remove
    split
    · rename_i d hl
      obtain ⟨hd, rfl⟩ := lookup_some hl
      obtain ⟨hi, hp⟩ := ih (Inv_removeOne h hd)
      exact ⟨hi, (List.perm_middle.trans (hp.cons d)).trans (eraseMsg_perm h.nodup hd)⟩
    · exact ih h

theorem mem_remove_msgs : ∀ (ids : List Nat) (t : Tracker) (d : Deliv),
    d ∈ (t.remove ids).1.msgs ↔ d ∈ t.msgs ∧ d.ack ∉ ids := by
  intro ids
  induction ids with
  | nil => intro t d; simp [Tracker.remove]
  | cons a rest ih =>
    intro t d
    unfold Tracker.remove
    split
    · rename_i d0 hl
      simp only
      rw [ih, mem_eraseMsg, List.mem_cons, not_or, and_assoc]
    · rename_i hl
      rw [ih, List.mem_cons, not_or]
      exact ⟨fun ⟨h1, h3⟩ => ⟨h1, lookup_eq_none_iff.mp hl d h1, h3⟩, fun ⟨h1, _, h3⟩ => ⟨h1, h3⟩⟩

theorem mem_remove_removed : ∀ (ids : List Nat) (t : Tracker) (d : Deliv),
    d ∈ (t.remove ids).2 → d ∈ t.msgs ∧ d.ack ∈ ids := by
  intro ids
  induction ids with
  | nil => intro t d h; cases h
  | cons a rest ih =>
    intro t d h
    unfold Tracker.remove at h
    split at h
    · rename_i d0 hl
      obtain ⟨hd0, rfl⟩ := lookup_some hl
      rcases List.mem_cons.mp h with rfl | h
      · exact ⟨hd0, List.mem_cons_self⟩
      · obtain ⟨h1, h2⟩ := ih _ d h
        exact ⟨(mem_eraseMsg.mp h1).1, List.mem_cons_of_mem _ h2⟩
    · exact (ih t d h).imp_right (List.mem_cons_of_mem _)

/-- `modify` changes deadlines only: what stays and what is nacked are, by ack id and message, the deliveries there were. -/
theorem modify_spec : ∀ (mods : List (Nat × Option Nat)) {t : Tracker}, t.Inv →
    (t.modify mods).1.Inv ∧
    (((t.modify mods).1.msgs ++ (t.modify mods).2).map fun d => (d.ack, d.msg)).Perm (t.msgs.map fun d => (d.ack, d.msg)) := by
  intro mods
  induction mods with
  | nil => intro t h; exact ⟨h, by simp [Tracker.modify]⟩
  | cons m rest ih =>
    intro t h
    obtain ⟨a, nd⟩ := m
    unfold Tracker.modify
    split
    · rename_i d hl
      obtain ⟨hd, rfl⟩ := lookup_some hl
      have hp0 := (eraseMsg_perm h.nodup hd).map fun x : Deliv => (x.ack, x.msg)
      cases nd with
      | some dl =>
        obtain ⟨hi, hp⟩ := ih (Inv_modifyOne h hd dl)
        exact ⟨hi, hp.trans (((map_set_perm h.nodup hd _).map _).trans hp0)⟩
      | none =>
        obtain ⟨hi, hp⟩ := ih (Inv_removeOne h hd)
        exact ⟨hi, (List.perm_middle.map _).trans ((hp.cons (d.ack, d.msg)).trans hp0)⟩
    · exact ih h

theorem modify_msgs_perm (mods : List (Nat × Option Nat)) {t : Tracker} (h : t.Inv) :
    (((t.modify mods).1.msgs.map (·.msg)) ++ (t.modify mods).2.map (·.msg)).Perm (t.msgs.map (·.msg)) := by
  simpa [List.map_map, Function.comp_def] using (modify_spec mods h).2.map Prod.snd

theorem mem_modify_msgs (mods : List (Nat × Option Nat)) {t : Tracker} (h : t.Inv) (d : Deliv)
    (hd : d ∈ (t.modify mods).1.msgs) : ∃ d0 ∈ t.msgs, d0.ack = d.ack ∧ d0.msg = d.msg := by
  obtain ⟨d0, hd0, e⟩ := List.mem_map.mp
    ((modify_spec mods h).2.mem_iff.mp (List.mem_map_of_mem (List.mem_append_left _ hd)))
  exact ⟨d0, hd0, congrArg Prod.fst e, congrArg Prod.snd e⟩

theorem modify_untouched : ∀ (mods : List (Nat × Option Nat)) (t : Tracker) (d : Deliv),
    d ∈ t.msgs → d.ack ∉ mods.map (·.1) → d ∈ (t.modify mods).1.msgs := by
  intro mods
  induction mods with
  | nil => intro t d h _; exact h
  | cons m rest ih =>
    intro t d h hn
    obtain ⟨a, nd⟩ := m
    rw [List.map_cons, List.mem_cons, not_or] at hn
    obtain ⟨hna, hn⟩ := hn
    unfold Tracker.modify
    split
    · cases nd with
      | some dl => exact ih _ d (List.mem_map.mpr ⟨d, h, if_neg (mt beq_iff_eq.mp hna)⟩) hn
      | none => exact ih _ d (mem_eraseMsg.mpr ⟨h, hna⟩) hn
    · exact ih t d h hn

theorem remove_noop : ∀ (ids : List Nat) (t : Tracker), (∀ a ∈ ids, t.lookup a = none) → t.remove ids = (t, []) := by
  intro ids
  induction ids with
  | nil => intro t _; rfl
  | cons a rest ih =>
    intro t h
    unfold Tracker.remove
    rw [h a List.mem_cons_self]
    exact ih t fun b hb => h b (List.mem_cons_of_mem _ hb)

theorem modify_noop : ∀ (mods : List (Nat × Option Nat)) (t : Tracker), (∀ m ∈ mods, t.lookup m.1 = none) →
    t.modify mods = (t, []) := by
  intro mods
  induction mods with
  | nil => intro t _; rfl
  | cons m rest ih =>
    intro t h
    unfold Tracker.modify
    rw [h m List.mem_cons_self]
    exact ih t fun b hb => h b (List.mem_cons_of_mem _ hb)

theorem Inv_popKey {dl a : Nat} {rest : List (Nat × Nat)} {ms : List Deliv}
    (h : ({ msgs := ms, exps := (dl, a) :: rest } : Tracker).Inv) :
    ∃ d ∈ ms, d.deadline = dl ∧ d.ack = a ∧ ms.find? (·.ack == a) = some d ∧
      ({ msgs := Tracker.eraseMsg ms a, exps := rest } : Tracker).Inv := by
  obtain ⟨d, hd, hk⟩ := (h.agree (dl, a)).mp List.mem_cons_self
  cases hk
  have hl := lookup_of_mem h.nodup hd
  have hinv : ({ msgs := Tracker.eraseMsg ms d.ack, exps := eraseKey (d.deadline, d.ack) ((d.deadline, d.ack) :: rest) } : Tracker).Inv :=
    Inv_removeOne h hd
  rw [eraseKey_head _ _ h.sorted] at hinv
  exact ⟨d, hd, rfl, rfl, hl, hinv⟩

/-- `some`: under the invariant the loop of `take_expired` never meets an expiration key without a delivery. -/
theorem takeExpiredGo_spec (now : Nat) (es : List (Nat × Nat)) (ms acc : List Deliv)
    (h : ({ msgs := ms, exps := es } : Tracker).Inv) :
    ∃ es' ms' taken, takeExpiredGo now es ms acc = some (es', ms', acc ++ taken) ∧
      ({ msgs := ms', exps := es' } : Tracker).Inv ∧ (ms' ++ taken).Perm ms ∧
      (∀ d ∈ taken, d.deadline ≤ now) ∧ (∀ d ∈ ms', now < d.deadline) := by
  induction es generalizing ms acc with
  | nil =>
    refine ⟨[], ms, [], by simp [takeExpiredGo], h, by simp, by simp, fun d hd => ?_⟩
    cases (h.agree d.key).mpr ⟨d, hd, rfl⟩
  | cons k rest ih =>
    obtain ⟨dl, a⟩ := k
    unfold takeExpiredGo
    split
    · rename_i hlt
      refine ⟨_, ms, [], by simp, h, by simp, by simp, fun d hd => ?_⟩
      obtain ⟨e, he, hle⟩ := nextExpiration_le h d hd
      cases he
      exact Nat.lt_of_lt_of_le hlt hle
    · obtain ⟨d, hd, rfl, rfl, hl, hinv⟩ := Inv_popKey h
      rw [hl]
      obtain ⟨es', ms', taken, he, hi, hp, h3, h4⟩ := ih _ (acc ++ [d]) hinv
      refine ⟨es', ms', d :: taken, by simpa using he, hi, ?_, ?_, h4⟩
      · exact (List.perm_middle.trans (hp.cons d)).trans (eraseMsg_perm h.nodup hd)
      · intro x hx
        rcases List.mem_cons.mp hx with rfl | hx
        · omega
        · exact h3 x hx

theorem takeExpired_spec {t : Tracker} (h : t.Inv) (now : Nat) :
    ∃ t' ds, t.takeExpired now = some (t', ds) ∧ t'.Inv ∧ (t'.msgs ++ ds).Perm t.msgs ∧
      (∀ d, d ∈ ds ↔ d ∈ t.msgs ∧ d.deadline ≤ now) ∧ (∀ d, d ∈ t'.msgs ↔ d ∈ t.msgs ∧ now < d.deadline) := by
  obtain ⟨es', ms', ds, he, hi, hp, h3, h4⟩ := takeExpiredGo_spec now t.exps t.msgs [] h
  refine ⟨⟨ms', es'⟩, ds, by simp [Tracker.takeExpired, he], hi, hp, fun d => ?_, fun d => ?_⟩
  · refine ⟨fun hd => ⟨hp.mem_iff.mp (List.mem_append_right _ hd), h3 d hd⟩, fun hd => ?_⟩
    exact (List.mem_append.mp (hp.mem_iff.mpr hd.1)).resolve_left fun h1 => Nat.lt_irrefl _ (Nat.lt_of_lt_of_le (h4 d h1) hd.2)
  · refine ⟨fun hd => ⟨hp.mem_iff.mp (List.mem_append_left _ hd), h4 d hd⟩, fun hd => ?_⟩
    exact (List.mem_append.mp (hp.mem_iff.mpr hd.1)).resolve_right fun h1 => Nat.lt_irrefl _ (Nat.lt_of_lt_of_le hd.2 (h3 d h1))

end Deltio
