import Deltio.Model.Base
namespace Deltio

theorem find?_map_of_key {α} {p : α → Bool} {f : α → α} (h : ∀ x, p (f x) = p x) (l : List α) :
    (l.map f).find? p = (l.find? p).map f := by
  rw [List.find?_map]
  congr 2
  exact funext h

theorem map_map_of_key {α β} {f : α → α} {g : α → β} (h : ∀ x, g (f x) = g x) (l : List α) :
    (l.map f).map g = l.map g := by
  rw [List.map_map]
  exact List.map_congr_left (fun x _ => h x)

theorem map_map_comm {α β} {f : α → α} {g : β → β} {t : α → β} (h : ∀ x, t (f x) = g (t x)) (l : List α) :
    (l.map f).map t = (l.map t).map g := by
  rw [List.map_map, List.map_map]
  exact List.map_congr_left (fun x _ => h x)

theorem eq_of_nodup_map {α β} {f : α → β} {l : List α} {a b : α} (h : (l.map f).Nodup) (ha : a ∈ l) (hb : b ∈ l)
    (he : f a = f b) : a = b := by
  induction l with
  | nil => cases ha
  | cons c cs ih =>
    simp only [List.map_cons, List.nodup_cons] at h
    rcases List.mem_cons.mp ha with rfl | ha' <;> rcases List.mem_cons.mp hb with rfl | hb'
    · rfl
    · exact absurd (by rw [he]; exact List.mem_map_of_mem hb') h.1
    · exact absurd (by rw [← he]; exact List.mem_map_of_mem ha') h.1
    · exact ih h.2 ha' hb'

theorem find?_key_of_nodup {α β} [BEq β] [LawfulBEq β] {f : α → β} {l : List α} (h : (l.map f).Nodup) {a : α} (ha : a ∈ l) :
    l.find? (fun x => f x == f a) = some a := by
  cases hf : l.find? (fun x => f x == f a) with
  | none => exact absurd (List.find?_eq_none.mp hf a ha) (by simp)
  | some x => exact congrArg some (eq_of_nodup_map h (List.mem_of_find?_eq_some hf) ha (by simpa using List.find?_some hf))

/-- `Nodup` is `Pairwise (· ≠ ·)`: this serves fresh names and increasing ids alike. -/
theorem pairwise_map_append {α β} {R : β → β → Prop} {f : α → β} {l : List α} {x : α} (h : (l.map f).Pairwise R)
    (hx : ∀ a ∈ l, R (f a) (f x)) : ((l ++ [x]).map f).Pairwise R := by
  rw [List.map_append, List.pairwise_append]
  refine ⟨h, List.pairwise_singleton _ _, fun a ha b hb => ?_⟩
  obtain ⟨y, hy, rfl⟩ := List.mem_map.mp ha
  cases List.mem_singleton.mp hb
  exact hx y hy

theorem filter_ne_key {α β γ} [BEq β] [LawfulBEq β] [BEq γ] [LawfulBEq γ] {f : α → β} {g : α → γ} {l : List α}
    (hf : (l.map f).Nodup) (hg : (l.map g).Nodup) {a : α} (ha : a ∈ l) :
    l.filter (fun x => f x != f a) = l.filter (fun x => g x != g a) := by
  apply List.filter_congr
  intro x hx
  by_cases h : x = a
  · subst h; rw [bne_self_eq_false, bne_self_eq_false]
  · rw [bne_iff_ne.mpr (fun e => h (eq_of_nodup_map hf hx ha e)), bne_iff_ne.mpr (fun e => h (eq_of_nodup_map hg hx ha e))]

theorem sum_eraseIdx {α} (w : α → Nat) : ∀ (l : List α) (i : Nat) (x : α), l[i]? = some x →
    ((l.eraseIdx i).map w).sum + w x = (l.map w).sum := by
  intro l
  induction l with
  | nil => intro i x h; simp at h
  | cons a rest ih =>
    intro i x h
    cases i with
    | zero => simp at h; subst h; simp [Nat.add_comm]
    | succ j =>
      simp at h
      have := ih j x h
      simp only [List.eraseIdx_cons_succ, List.map_cons, List.sum_cons]
      omega

theorem aerase_filter_eq {α β} [BEq α] (k : α) (l : List (α × β)) : aerase k l = l.filter (fun p => p.1 != k) := by
  induction l with
  | nil => rfl
  | cons x xs ih =>
    obtain ⟨k', v⟩ := x
    simp only [aerase, List.filter_cons, bne, ih]
    cases k' == k <;> rfl

theorem alookup_eq_find? {α β} [BEq α] (k : α) (l : List (α × β)) :
    alookup k l = (l.find? (·.1 == k)).map (·.2) := by
  induction l with
  | nil => rfl
  | cons x rest ih =>
    obtain ⟨k', v⟩ := x
    simp only [alookup, List.find?_cons, ih]
    cases k' == k <;> rfl

theorem alookup_append {α β} [BEq α] (k : α) (l r : List (α × β)) :
    alookup k (l ++ r) = (alookup k l).or (alookup k r) := by
  simp only [alookup_eq_find?, List.find?_append]
  cases l.find? (·.1 == k) <;> rfl

theorem alookup_map_val {α β γ} [BEq α] (k : α) (f : β → γ) (l : List (α × β)) :
    alookup k (l.map (fun kr => (kr.1, f kr.2))) = (alookup k l).map f := by
  simp only [alookup_eq_find?, List.find?_map, Option.map_map]
  rfl

theorem find?_append_new {α} (l : List α) (x : α) (p : α → Bool) (hx : p x = true) (hn : l.find? p = none) :
    (l ++ [x]).find? p = some x := by
  rw [List.find?_append, hn]; simp [hx]

theorem find?_filter_ne_key {α β} [BEq β] [LawfulBEq β] {f : α → β} {gone k : β} (h : k ≠ gone) (l : List α) :
    (l.filter (f · != gone)).find? (f · == k) = l.find? (f · == k) := by
  rw [List.find?_filter]
  congr 1; funext x
  by_cases hx : f x = k
  · subst hx; simpa using h
  · simp [hx]

theorem alookup_filter_ne {α β} [BEq α] [LawfulBEq α] (k n : α) (l : List (α × β)) :
    alookup k (l.filter (fun kr => kr.1 != n)) = if k == n then none else alookup k l := by
  rw [alookup_eq_find?, alookup_eq_find?]
  split
  · rename_i h
    rw [List.find?_eq_none.mpr fun x hx hk => ?_]; · rfl
    exact bne_iff_ne.mp (List.mem_filter.mp hx).2 ((eq_of_beq hk).trans (eq_of_beq h))
  · rename_i h
    rw [find?_filter_ne_key (f := fun kr : α × β => kr.1) (fun e : k = n => h (beq_iff_eq.mpr e))]

theorem alookup_none_of {α β} [BEq α] [LawfulBEq α] (k : α) (l : List (α × β)) (h : ∀ p ∈ l, p.1 ≠ k) : alookup k l = none := by
  rw [alookup_eq_find?, List.find?_eq_none.mpr (fun p hp => by simpa using h p hp)]; rfl

theorem alookup_aerase {α β} [BEq α] [LawfulBEq α] (k : α) (l : List (α × β)) : alookup k (aerase k l) = none := by
  rw [aerase_filter_eq, alookup_filter_ne, beq_self_eq_true, if_pos rfl]

theorem mem_aerase {α β} [BEq α] [LawfulBEq α] (k : α) (l : List (α × β)) (x : α × β) :
    x ∈ aerase k l ↔ x ∈ l ∧ x.1 ≠ k := by
  rw [aerase_filter_eq, List.mem_filter, bne_iff_ne]

theorem foldl_inv {α β} {f : β → α → β} {Q : β → List α → Prop} (hstep : ∀ b pre a, Q b pre → Q (f b a) (pre ++ [a]))
    (l : List α) : ∀ (pre : List α) (b : β), Q b pre → Q (l.foldl f b) (pre ++ l) := by
  induction l with
  | nil => intro pre b h; rw [List.append_nil]; exact h
  | cons a l ih =>
    intro pre b h
    have := ih (pre ++ [a]) (f b a) (hstep b pre a h)
    rwa [List.append_assoc] at this

/-! Found by search these instances are rebuilt, slowly, at every use: for bytes and naturals the order classes of `Std`
    offer candidates that fail only after the comparison is unfolded; names are pairs of byte strings. -/
instance : LawfulBEq UInt8 := inferInstance
instance : ReflBEq UInt8 := (inferInstance : LawfulBEq UInt8).toReflBEq
instance : ReflBEq Nat := (inferInstance : LawfulBEq Nat).toReflBEq
instance : LawfulBEq (Bytes × Bytes) := inferInstance

end Deltio
