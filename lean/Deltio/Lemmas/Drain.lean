import Deltio.Lemmas.SubClock
import Deltio.Lemmas.SubsOk
import Deltio.Lemmas.SysSub
/- Fuel sufficiency of `drainStream`, and from it `DrainInv` after ANY admissible history. -/
namespace Deltio

/-- The sub-state facts the drain loop needs. -/
structure DrainOk (st : SubState) : Prop where
  inv : SubInv st
  live : st.deleted = false
  dl : 0 < st.ackDl

theorem drainStable : TurnStable DrainOk := by
  constructor
  · intro dl h; exact ⟨SubInv_init dl, rfl, h⟩
  · intro s t h h1 _
    exact ⟨SubInv_turn h.inv t, by rw [turn_deleted t h1]; exact h.live, by rw [turn_ackDl]; exact h.dl⟩

-- the newer `split`: see Lemmas/SysStep.lean
set_option backward.split false in
theorem drainStream_empty (k sid fuel : Nat) {sys : Sys} {st : SubState} (hst : sys.stateOf sid = some st)
    (hb : st.backlog = []) : drainStream k sid fuel sys = sys := by
  obtain ⟨e, he, rfl⟩ := find_of_stateOf hst
  cases fuel with
  | zero => rfl
  | succ n =>
    unfold drainStream
    split
    · rfl
    · split
      · rfl
      · simp [he, hb]

theorem drainStream_step (k sid fuel : Nat) {sys : Sys} {s : Stream} {st : SubState}
    (hfind : sys.streams.find? (·.k == k) = some s) (hend : s.ended = false) (hsid : s.sid = sid)
    (hst : sys.stateOf sid = some st) (hb : st.backlog ≠ []) :
    ∃ sys2 s2, drainStream k sid (fuel + 1) sys = drainStream k sid fuel sys2 ∧
      sys2.streams.find? (·.k == k) = some s2 ∧ s2.ended = false ∧ s2.sid = sid ∧
      sys2.stateOf sid = some ((st.turn (.pull s.max16 sys.clock)).1.turn (.expire sys.clock)).1 ∧
      sys2.clock = sys.clock := by
  obtain ⟨e, he, rfl⟩ := find_of_stateOf hst
  have hk : s.k = k := by simpa using List.find?_some hfind
  refine ⟨{ (sys.subTurn sid (.pull s.max16 sys.clock)).1 with streams := (sys.subTurn sid (.pull s.max16 sys.clock)).1.streams.map (fun x =>
      if x.k == k then { x with outbox := x.outbox ++ [.msgs (sys.subTurn sid (.pull s.max16 sys.clock)).2.delivered] } else x) },
    { s with outbox := s.outbox ++ [.msgs (sys.subTurn sid (.pull s.max16 sys.clock)).2.delivered] }, ?_, ?_, hend, hsid,
    stateOf_subTurn_self _ hst, (subTurn_data sys sid (.pull s.max16 sys.clock) (by simp)).clock_eq⟩
  · have hguard : (s.ended || s.sid != sid) = false := by simp [hend, hsid]
    have hbe : e.st.backlog.isEmpty = false := by simpa using hb
    rw [drainStream]
    simp only [hfind, hguard, he, hbe, Bool.false_eq_true, ↓reduceIte]
  · show List.find? _ (List.map _ _) = _
    rw [find?_map_of_key (fun x => by split <;> rfl), subTurn_streams, hfind]
    simp [hk]

/-- The pull loop of stream `k` on `sid`, started with nothing expired and more fuel than queued
    messages, empties the backlog. -/
theorem drainStream_fresh (k sid : Nat) : ∀ (fuel : Nat) (sys : Sys) (s : Stream) (st : SubState),
    sys.streams.find? (·.k == k) = some s → s.ended = false → s.sid = sid →
    sys.stateOf sid = some st → DrainOk st → Fresh st sys.clock → st.backlog.length < fuel →
    ∃ st', (drainStream k sid fuel sys).stateOf sid = some st' ∧ st'.backlog = [] ∧ DrainOk st' ∧
      Fresh st' (drainStream k sid fuel sys).clock := by
  intro fuel
  induction fuel with
  | zero => intro sys s st _ _ _ _ _ _ hlt; exact absurd hlt (Nat.not_lt_zero _)
  | succ n ih =>
    intro sys s st hfind hend hsid hst hok hfresh hlt
    by_cases hb : st.backlog = []
    · rw [drainStream_empty k sid _ hst hb]
      exact ⟨st, hst, hb, hok, hfresh⟩
    · obtain ⟨sys2, s2, heq, hfind2, hend2, hsid2, hst2, hclk⟩ := drainStream_step k sid n hfind hend hsid hst hb
      obtain ⟨_, _, hf2, hi2, hd2, ha2, hdec⟩ := pull_step hok.inv hok.live hok.dl s.max16 sys.clock hb
      rw [heq]
      exact ih sys2 s2 _ hfind2 hend2 hsid2 hst2 ⟨hi2, hd2, by rw [ha2]; exact hok.dl⟩ (by rw [hclk]; exact hf2)
        (Nat.lt_of_lt_of_le (hdec hfresh) (Nat.le_of_lt_succ hlt))

/-- The pull loop of stream `k` on `sid` with the fuel `drainSub` gives it (`subLoad`) empties the
    backlog, whatever has expired meanwhile. -/
theorem drainStream_drains (k sid : Nat) (fuel : Nat) (sys : Sys) (s : Stream) (st : SubState)
    (hfind : sys.streams.find? (·.k == k) = some s) (hend : s.ended = false) (hsid : s.sid = sid)
    (hst : sys.stateOf sid = some st) (hok : DrainOk st) (hfuel : st.backlog.length + st.out.msgs.length < fuel) :
    ∃ st', (drainStream k sid fuel sys).stateOf sid = some st' ∧ st'.backlog = [] ∧ DrainOk st' := by
  by_cases hb : st.backlog = []
  · rw [drainStream_empty k sid _ hst hb]
    exact ⟨st, hst, hb, hok⟩
  · obtain ⟨n, rfl⟩ : ∃ n, fuel = n + 1 := Nat.exists_eq_add_one_of_ne_zero (Nat.ne_zero_of_lt hfuel)
    obtain ⟨sys2, s2, heq, hfind2, hend2, hsid2, hst2, hclk⟩ := drainStream_step k sid n hfind hend hsid hst hb
    obtain ⟨hcons, hone, hf2, hi2, hd2, ha2, _⟩ := pull_step hok.inv hok.live hok.dl s.max16 sys.clock hb
    rw [heq]
    obtain ⟨st', h1, h2, h3, _⟩ := drainStream_fresh k sid n sys2 s2 _ hfind2 hend2 hsid2 hst2
      ⟨hi2, hd2, by rw [ha2]; exact hok.dl⟩ (by rw [hclk]; exact hf2) (by omega)
    exact ⟨st', h1, h2, h3⟩

theorem ks_of_shape {l l' : List Stream} (h : l'.map Stream.shape = l.map Stream.shape) : l'.map (·.k) = l.map (·.k) := by
  have := congrArg (List.map (fun (p : Nat × Nat × Bool) => p.1)) h
  simp only [List.map_map] at this
  exact this

theorem mem_of_shape {l l' : List Stream} (h : l'.map Stream.shape = l.map Stream.shape) {s : Stream} (hs : s ∈ l') :
    ∃ s0 ∈ l, s0.k = s.k ∧ s0.sid = s.sid ∧ s0.ended = s.ended := by
  obtain ⟨s0, h0, h1⟩ := List.mem_map.mp (h ▸ List.mem_map_of_mem hs : s.shape ∈ l.map Stream.shape)
  exact ⟨s0, h0, congrArg (·.1) h1, congrArg (·.2.1) h1, congrArg (·.2.2) h1⟩

theorem subLoad_eq {sys : Sys} {sid : Nat} {st : SubState} (h : sys.stateOf sid = some st) :
    sys.subLoad sid = st.backlog.length + st.out.msgs.length + 1 := by
  obtain ⟨e, he, hest⟩ := find_of_stateOf h
  simp only [Sys.subLoad, he, hest]

/-- After `drainSub sid`, if some StreamingPull is open on `sid`, nothing is left queued on it. -/
theorem drainSub_drains (sys : Sys) (sid : Nat) (st : SubState) (hst : sys.stateOf sid = some st) (hok : DrainOk st)
    (hk : (sys.streams.map (·.k)).Nodup) (hex : ∃ s ∈ sys.streams, s.sid = sid ∧ s.ended = false) :
    ∃ st', (sys.drainSub sid).stateOf sid = some st' ∧ st'.backlog = [] ∧ DrainOk st' := by
  unfold Sys.drainSub
  have hl : ∀ s ∈ sys.streams.filter (fun s => s.sid == sid && !s.ended), s ∈ sys.streams ∧ s.sid = sid ∧ s.ended = false := by
    intro s hs
    simpa [and_assoc] using hs
  have hne : sys.streams.filter (fun s => s.sid == sid && !s.ended) ≠ [] := by
    obtain ⟨s, hs, h1, h2⟩ := hex
    exact List.ne_nil_of_mem (List.mem_filter.mpr ⟨hs, by simp [h1, h2]⟩)
  generalize sys.streams.filter (fun s => s.sid == sid && !s.ended) = l at hl hne
  -- fold with the accumulator generalised: same stream shapes, a state for `sid` that is `DrainOk`
  have key : ∀ (l : List Stream) (acc : Sys) (sta : SubState), l ≠ [] ∨ sta.backlog = [] →
      (∀ s ∈ l, s ∈ sys.streams ∧ s.sid = sid ∧ s.ended = false) →
      acc.streams.map Stream.shape = sys.streams.map Stream.shape → acc.stateOf sid = some sta → DrainOk sta →
      ∃ st', (l.foldl (fun acc s => drainStream s.k sid (acc.subLoad sid) acc) acc).stateOf sid = some st' ∧ st'.backlog = [] ∧ DrainOk st' := by
    intro l
    induction l with
    | nil => intro acc sta h _ _ hsta hoka; exact ⟨sta, hsta, h.resolve_left (fun h => h rfl), hoka⟩
    | cons s rest ih =>
      intro acc sta _ hall hshape hsta hoka
      simp only [List.foldl_cons]
      obtain ⟨hs1, hs2, hs3⟩ := hall s (by simp)
      obtain ⟨s', hs', h'k, h'sid, h'end⟩ := mem_of_shape hshape.symm hs1
      have hf' := find?_key_of_nodup (f := (·.k)) (by rw [ks_of_shape hshape]; exact hk) hs'
      rw [h'k] at hf'
      obtain ⟨st1, h1, h2, h3⟩ := drainStream_drains s.k sid (acc.subLoad sid) acc s' sta hf' (h'end.trans hs3) (h'sid.trans hs2) hsta hoka
        (by rw [subLoad_eq hsta]; omega)
      exact ih _ st1 (Or.inr h2) (fun x hx => hall x (by simp [hx])) (by rw [(drainStream_data _ _ _ _).shape]; exact hshape) h1 h3
  exact key l sys st (Or.inl hne) hl rfl hst hok

/-- The streams part of the invariant: distinct stream keys, and no open StreamingPull sits on a
    subscription with queued messages. -/
structure DrainInv (sys : Sys) : Prop where
  ks : (sys.streams.map (·.k)).Nodup
  ok : SubsAll DrainOk sys
  drained : ∀ s ∈ sys.streams, s.ended = false → ∀ st, sys.stateOf s.sid = some st → st.backlog = []

/-- Every request that reaches a subscription actor: data-plane work on `sid` alone, then `drainSub sid`.
    `sys1` may differ from a system satisfying the invariant by streams on `sid` (a StreamingPull being opened). -/
theorem DrainInv_drainSub_from {sys sys1 x : Sys} (h : DrainInv sys) {sid : Nat} (hx : Sys.Data (· = sid) 0 sys1 x)
    (hks : (sys1.streams.map (·.k)).Nodup) (hsubs : sys1.subs = sys.subs)
    (hstreams : ∀ s ∈ sys1.streams, s.sid ≠ sid → s ∈ sys.streams) : DrainInv (x.drainSub sid) := by
  have hd := hx.trans (drainSub_data x sid)
  have hks' : (x.streams.map (·.k)).Nodup := by rw [ks_of_shape hx.shape]; exact hks
  have hok : SubsAll DrainOk x := hx.subsAll drainStable (fun e he => h.ok e (hsubs ▸ he))
  refine ⟨by rw [ks_of_shape hd.shape]; exact hks, (drainSub_data x sid).subsAll drainStable hok, ?_⟩
  intro s hs hend st hst
  by_cases hsid : s.sid = sid
  · -- a stream on `sid` is open, so the drain has emptied the backlog
    rw [hsid] at hst
    obtain ⟨stx, hstx⟩ : ∃ stx, x.stateOf sid = some stx :=
      Option.isSome_iff_exists.mp (by rw [← stateOf_isSome_of_skel (drainSub_data x sid).skel, hst]; rfl)
    obtain ⟨s1, hs1, _, h1sid, h1end⟩ := mem_of_shape (drainSub_data x sid).shape hs
    obtain ⟨st', h1, h2, _⟩ := drainSub_drains x sid stx hstx (SubsAll_stateOf hok hstx) hks'
      ⟨s1, hs1, h1sid.trans hsid, h1end.trans hend⟩
    rw [h1] at hst
    cases hst; exact h2
  · obtain ⟨s0, hs0, _, h0sid, h0end⟩ := mem_of_shape hd.shape hs
    rw [hd.other hsid] at hst
    have : sys1.stateOf s.sid = sys.stateOf s.sid := by unfold Sys.stateOf Sys.findSubById; rw [hsubs]
    exact h.drained s0 (hstreams s0 hs0 (h0sid ▸ hsid)) (h0end.trans hend) st
      (by rw [h0sid, ← this]; exact hst)

theorem DrainInv_drainSub {sys x : Sys} (h : DrainInv sys) {sid : Nat} (hx : Sys.Data (· = sid) 0 sys x) :
    DrainInv (x.drainSub sid) :=
  DrainInv_drainSub_from h hx h.ks rfl (fun _ hs _ => hs)

theorem DrainInv_fewer {sys x : Sys} (h : DrainInv sys) (hsubs : ∀ e ∈ x.subs, e ∈ sys.subs)
    (hst : ∀ sid st, x.stateOf sid = some st → sys.stateOf sid = some st) (hks : (x.streams.map (·.k)).Nodup)
    (h2 : ∀ s ∈ x.streams, s.ended = false → ∃ s0 ∈ sys.streams, s0.ended = false ∧ s0.sid = s.sid) : DrainInv x := by
  refine ⟨hks, fun e he => h.ok e (hsubs e he), fun s hs hend st hs' => ?_⟩
  obtain ⟨s0, hs0, h0end, h0sid⟩ := h2 s hs hend
  exact h.drained s0 hs0 h0end st (h0sid ▸ hst _ _ hs')

theorem noStreamOn_of_shape {a b : Sys} (h : b.streams.map Stream.shape = a.streams.map Stream.shape) {sid : Nat}
    (hn : a.noStreamOn sid) : b.noStreamOn sid := by
  intro s hs hend
  obtain ⟨s0, hs0, _, h0sid, h0end⟩ := mem_of_shape h hs
  rw [← h0sid]; exact hn s0 hs0 (by rw [h0end]; exact hend)

theorem DrainInv_addSub {sys x : Sys} (h : DrainInv sys) (e : SubEnt) (h1 : x.subs = sys.subs ++ [e])
    (h2 : x.streams = sys.streams) (he : DrainOk e.st) (hb : e.st.backlog = []) : DrainInv x := by
  constructor
  · rw [h2]; exact h.ks
  · intro y hy
    rw [h1] at hy
    simp only [List.mem_append, List.mem_singleton] at hy
    rcases hy with hy | rfl
    · exact h.ok y hy
    · exact he
  · intro s hs hend st hst
    rw [h2] at hs
    unfold Sys.stateOf Sys.findSubById at hst
    rw [h1, List.find?_append] at hst
    cases hold : sys.subs.find? (·.sid == s.sid) with
    | some y =>
      rw [hold] at hst
      exact h.drained s hs hend st (by unfold Sys.stateOf Sys.findSubById; rw [hold]; exact hst)
    | none =>
      rw [hold] at hst
      simp only [Option.none_or, List.find?_cons] at hst
      split at hst
      · cases hst; exact hb
      · cases hst

/-- Requests the sequential model takes: a Pull that may block is only sent to a subscription
    nobody streams from (one waiting consumer per subscription, DESIGN D.3). -/
def Sys.admits (sys : Sys) : Req → Prop
  | .pull raw _ false => ∀ n e, parseSubName raw = some n → sys.findSub n = some e → sys.noStreamOn e.sid
  | _ => True

/-- By `apply_ind`; the opening of a stream is where the invariant fails in between (`DrainInv_drainSub_from`). -/
theorem DrainInv_apply {sys : Sys} (h : DrainInv sys) (op : SysOp)
    (hadm : ∀ r, op = .rpc r → sys.admits r) : DrainInv (sys.apply op) := by
  refine apply_ind sys op ?_ ?_ (fun _ _ _ h hd => DrainInv_drainSub h hd)
    (fun _ _ h _ _ => DrainInv_fewer h (fun _ he => he) (fun _ _ hst => hst) h.ks (fun s hs he => ⟨s, hs, he, rfl⟩)) ?_
  · intro mid hc hks hfew
    cases hc with
    | none | createTopic | deleteTopic | publish | streams =>
      exact DrainInv_fewer h (fun _ he => he) (fun _ _ hst => hst) (hks h.ks) hfew
    | @createSub _ _ ack => exact DrainInv_addSub h _ rfl rfl (drainStable.init _ (effAck_pos ack)) rfl
    | @deleteSub _ _ e =>
      refine DrainInv_fewer h (fun x hx => (List.mem_filter.mp hx).1) (fun sid st hst => ?_) (hks h.ks) hfew
      -- a subscription that still has a state is not the deleted one
      have hne : sid ≠ e.sid := by
        obtain ⟨x, hx, _⟩ := find_of_stateOf hst
        have h1 := List.find?_some hx
        have h2 := (List.mem_filter.mp (List.mem_of_find?_eq_some hx)).2
        intro heq
        rw [heq] at h1
        simp [eq_of_beq h1] at h2
      unfold Sys.stateOf Sys.findSubById at hst ⊢
      simp only at hst
      rwa [find?_filter_ne_key (f := SubEnt.sid) hne] at hst
  · intro s x hd
    refine DrainInv_drainSub_from h hd ?_ rfl ?_
    · exact pairwise_map_append (h.ks.sublist (List.filter_sublist.map _)) (fun a ha => by simpa using (List.mem_filter.mp ha).2)
    · intro t ht hne
      simp only [List.mem_append, List.mem_filter, List.mem_singleton] at ht
      rcases ht with ht | rfl
      · exact ht.1
      · exact absurd rfl hne
  · intro s x raw mx n e hop hp hf hs hshape hd
    -- work on a subscription nobody streams from needs no drain
    have := DrainInv_drainSub hs hd
    rwa [drainSub_noStreamOn (noStreamOn_of_shape (hd.shape.trans hshape) (hadm _ hop n e hp hf))] at this

/-- Histories the sequential model takes (see `Sys.admits`). -/
def Sys.admitsAll : Sys → List SysOp → Prop
  | _, [] => True
  | sys, op :: rest => (∀ r, op = .rpc r → sys.admits r) ∧ (sys.apply op).admitsAll rest

theorem DrainInv_init : DrainInv Sys.init := by
  constructor
  · simp [Sys.init]
  · exact SubsAll_init
  · intro s hs; simp [Sys.init] at hs

theorem DrainInv_execOps : ∀ (ops : List SysOp) (sys : Sys), DrainInv sys → sys.admitsAll ops → DrainInv (sys.execOps ops)
  | [], _, h, _ => h
  | op :: rest, _, h, hadm => DrainInv_execOps rest _ (DrainInv_apply h op hadm.1) hadm.2

end Deltio
