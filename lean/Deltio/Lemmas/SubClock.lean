import Deltio.Lemmas.SubRun
import Deltio.Lemmas.Deadline
namespace Deltio

/-- Capacity 0 still hands out one message. -/
theorem pull_nonempty (s : SubState) (max16 now : Nat) (hd : s.deleted = false) (hb : s.backlog ≠ []) :
    (s.turn (.pull max16 now)).2.delivered ≠ [] :=
  List.ne_nil_of_length_pos (by rw [pull_length s max16 now hd]; exact pullCount_pos _ (List.length_pos_iff.mpr hb))

theorem pull_empty_keeps_out (s : SubState) (mx now : Nat) (h : (s.turn (.pull mx now)).2.delivered = []) :
    (s.turn (.pull mx now)).1.out = s.out := by
  cases hd : s.deleted with
  | true => simp [SubState.turn, hd]
  | false =>
    have := pull_turn s mx now hd
    rw [this.2] at h
    rw [this.1]
    simp only
    rw [h]
    rfl

theorem expire_same_or_nonempty (s : SubState) (now : Nat) :
    (s.turn (.expire now)).1 = s ∨ (s.turn (.expire now)).1.backlog ≠ [] := by
  dsimp only [SubState.turn]
  split
  · exact Or.inl rfl
  · split
    · exact Or.inl rfl
    · rename_i out expired _ hne
      right
      simp only
      cases expired with
      | nil => simp at hne
      | cons x xs => simp

theorem expire_hits {s : SubState} (h : SubInv s) (d now : Nat) (hn : s.out.nextExpiration = some d) (hd : d ≤ now) :
    (s.turn (.expire now)).1.backlog ≠ [] := by
  obtain ⟨dv, hdv, rfl⟩ := nextExpiration_mem h.out hn
  exact List.ne_nil_of_mem (at_deadline h dv hdv now hd).1

/-- What leaves the tracker joins the backlog, and something does leave once the earliest deadline is due. -/
theorem expire_lengths {s : SubState} (h : SubInv s) (now : Nat) :
    (s.turn (.expire now)).1.backlog.length + (s.turn (.expire now)).1.out.msgs.length = s.backlog.length + s.out.msgs.length ∧
    (s.turn (.expire now)).1.out.msgs.length ≤ s.out.msgs.length ∧
    ∀ d, s.out.nextExpiration = some d → d ≤ now → (s.turn (.expire now)).1.out.msgs.length < s.out.msgs.length := by
  obtain ⟨out', ds, he, _, hp, h3, _⟩ := expire_turn h now
  have hl := hp.length_eq
  simp only [he, List.length_append, List.length_map] at hl ⊢
  refine ⟨by omega, by omega, fun d hn hd => ?_⟩
  obtain ⟨dv, hdv, rfl⟩ := nextExpiration_mem h.out hn
  have := List.length_pos_of_mem ((h3 dv).mpr ⟨hdv, hd⟩)
  omega

/-- Nothing outstanding has expired at `c`. -/
def Fresh (st : SubState) (c : Nat) : Prop := ∀ d ∈ st.out.msgs, c < d.deadline

theorem expire_fresh {s : SubState} (h : SubInv s) (c : Nat) : Fresh (s.turn (.expire c)).1 c := by
  obtain ⟨out', ds, he, _, _, _, h4, _⟩ := expire_turn h c
  rw [he]; exact fun d hd => ((h4 d).mp hd).2

theorem expire_noop_of_fresh {s : SubState} (h : SubInv s) (c : Nat) (hf : Fresh s c) : (s.turn (.expire c)).1 = s := by
  obtain ⟨out', ds, he, _, hp, h3, _, hnil⟩ := expire_turn h c
  cases ds with
  | nil => rw [he, hnil rfl]; simp
  | cons d rest =>
    have := (h3 d).mp List.mem_cons_self
    have := hf d this.1
    omega

theorem pull_deadline_gt {s : SubState} (hdl : 0 < s.ackDl) {mx c : Nat} {d : Deliv} (hd : d ∈ (s.turn (.pull mx c)).2.delivered) :
    c < d.deadline := by
  rw [pull_deadline s mx c d hd]
  exact Nat.lt_of_lt_of_le (Nat.lt_add_of_pos_right hdl) (Nat.le_add_right _ _)

theorem pull_fresh {s : SubState} (h : SubInv s) (hd : s.deleted = false) (hdl : 0 < s.ackDl) (mx c : Nat) (hf : Fresh s c) :
    Fresh (s.turn (.pull mx c)).1 c := by
  intro d hdm
  rw [(pull_out h hd mx c).2] at hdm
  rcases List.mem_append.mp hdm with h1 | h1
  · exact hf d h1
  · exact pull_deadline_gt hdl h1

/-- One pull request of a stream (pull turn + expiry re-check) on a non-empty backlog. The last conjunct is the
    fuel argument of the stream's pull loop: once nothing outstanding has expired, every pull shortens the backlog. -/
theorem pull_step {s : SubState} (h : SubInv s) (hd : s.deleted = false) (hdl : 0 < s.ackDl) (mx c : Nat) (hb : s.backlog ≠ []) :
    let s2 := ((s.turn (.pull mx c)).1.turn (.expire c)).1
    s2.backlog.length + s2.out.msgs.length = s.backlog.length + s.out.msgs.length ∧
    1 ≤ s2.out.msgs.length ∧ Fresh s2 c ∧ SubInv s2 ∧ s2.deleted = false ∧ s2.ackDl = s.ackDl ∧
    (Fresh s c → s2.backlog.length < s.backlog.length) := by
  intro s2
  have hinv1 : SubInv (s.turn (.pull mx c)).1 := SubInv_turn h _
  have hout := (pull_out h hd mx c).2
  -- what the pull turn delivers is non-empty, leaves the backlog, and becomes outstanding
  obtain ⟨d, hdm⟩ := List.exists_mem_of_ne_nil _ (pull_nonempty s mx c hd hb)
  have hfifo := congrArg List.length (pull_fifo s mx c hd)
  have hlen := congrArg List.length hout
  have hpos := List.length_pos_of_mem hdm
  simp only [List.length_append, List.length_map] at hfifo hlen
  have hcons : s2.backlog.length + s2.out.msgs.length = _ := (expire_lengths hinv1 c).1
  -- a just-delivered message is still outstanding after the expiry re-check (its deadline is in the future)
  have hd2 : d ∈ s2.out.msgs := lease_persists hinv1 (.expire c) d (hout ▸ List.mem_append_right _ hdm)
    (Nat.not_le_of_lt (pull_deadline_gt hdl hdm))
  refine ⟨by omega, List.length_pos_of_mem hd2, expire_fresh hinv1 c, SubInv_turn hinv1 _, ?_, ?_, fun hf => ?_⟩
  · exact (turn_deleted _ (by simp)).trans ((turn_deleted _ (by simp)).trans hd)
  · exact (turn_ackDl _ _).trans (turn_ackDl _ _)
  · have : s2 = (s.turn (.pull mx c)).1 := expire_noop_of_fresh hinv1 c (pull_fresh h hd hdl mx c hf)
    rw [this]; omega

end Deltio
