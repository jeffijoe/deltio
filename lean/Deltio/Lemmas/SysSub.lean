import Deltio.Lemmas.SysFrame
namespace Deltio

theorem touch_other (sys : Sys) (sid sid' : Nat) (h : sid' ≠ sid) :
    (sys.touch sid).stateOf sid' = sys.stateOf sid' :=
  (touch_data sys sid).other h

/-- No open StreamingPull on subscription `sid`. -/
def Sys.noStreamOn (sys : Sys) (sid : Nat) : Prop := ∀ s ∈ sys.streams, s.ended = false → s.sid ≠ sid

theorem drainSub_noStreamOn {sys : Sys} {sid : Nat} (h : sys.noStreamOn sid) : sys.drainSub sid = sys := by
  unfold Sys.drainSub
  rw [List.filter_eq_nil_iff.mpr]
  · rfl
  · intro s hs hc
    simp only [Bool.and_eq_true, beq_iff_eq, Bool.not_eq_true'] at hc
    exact h s hs hc.2 hc.1

theorem drainSub_nostreams {sys : Sys} {sid : Nat} (h : sys.streams = []) : sys.drainSub sid = sys :=
  drainSub_noStreamOn fun s hs => by rw [h] at hs; cases hs

theorem subTurn_streams (sys : Sys) (sid : Nat) (t : SubTurn) : (sys.subTurn sid t).1.streams = sys.streams := by
  unfold Sys.subTurn
  split <;> rfl

theorem stateOf_subTurn_self {sys : Sys} {sid : Nat} (t : SubTurn) {st : SubState} (h : sys.stateOf sid = some st) :
    (sys.subTurn sid t).1.stateOf sid = some ((st.turn t).1.turn (.expire sys.clock)).1 := by
  obtain ⟨e, hf, rfl⟩ := find_of_stateOf h
  simp only [Sys.subTurn, hf, Sys.stateOf, findSubById_setSubState_self hf, Option.map_some]

theorem subExpire_self {sys : Sys} {sid : Nat} {st : SubState} (h : sys.stateOf sid = some st) :
    (sys.subExpire sid).stateOf sid = some (st.turn (.expire sys.clock)).1 := by
  obtain ⟨e, hf, rfl⟩ := find_of_stateOf h
  simp only [Sys.subExpire, hf, Sys.stateOf, findSubById_setSubState_self hf, Option.map_some]

theorem subExpire_streams (sys : Sys) (sid : Nat) : (sys.subExpire sid).streams = sys.streams := by
  unfold Sys.subExpire; split <;> rfl

theorem subTurn_out {sys : Sys} {sid : Nat} {t : SubTurn} {st : SubState} (h : sys.stateOf sid = some st) :
    (sys.subTurn sid t).2 = (st.turn t).2 := by
  obtain ⟨e, hf, rfl⟩ := find_of_stateOf h
  simp only [Sys.subTurn, hf]

theorem touch_nostreams {sys : Sys} (h : sys.streams = []) (x : Nat) : sys.touch x = sys.subExpire x :=
  drainSub_nostreams (by rw [subExpire_streams]; exact h)

theorem postAll_spec (ms : List Msg) : ∀ (l : List (Name × Nat)) (sys : Sys), sys.streams = [] → (l.map (·.2)).Nodup →
    (∀ sid', sid' ∉ l.map (·.2) → (sys.postAll ms l).stateOf sid' = sys.stateOf sid') ∧
    (∀ sid ∈ l.map (·.2), ∀ st, sys.stateOf sid = some st →
        (sys.postAll ms l).stateOf sid = some ((st.turn (.post ms)).1.turn (.expire sys.clock)).1) := by
  intro l sys hs hnd
  refine ⟨fun _ hn => (postAll_data sys ms l).other hn, ?_⟩
  induction l generalizing sys with
  | nil => intro sid hm; cases hm
  | cons x rest ih =>
    obtain ⟨n, sid0⟩ := x
    simp only [List.map_cons, List.nodup_cons] at hnd
    simp only [Sys.postAll]
    have hs1 : (sys.subTurn sid0 (.post ms)).1.streams = [] := by rw [subTurn_streams]; exact hs
    rw [drainSub_nostreams hs1]
    have hd : Sys.Data (· = sid0) 0 sys (sys.subTurn sid0 (.post ms)).1 := subTurn_data sys sid0 (.post ms) (by simp)
    intro sid hm st hst
    simp only [List.map_cons, List.mem_cons] at hm
    rcases hm with rfl | hm
    · rw [(postAll_data _ ms rest).other hnd.1]
      exact stateOf_subTurn_self _ hst
    · have hne : sid ≠ sid0 := fun hc => hnd.1 (hc ▸ hm)
      rw [ih _ hs1 hnd.2 sid hm st (by rw [hd.other hne]; exact hst), hd.clock_eq]

/-! A small concrete system for the non-vacuity examples: topic `p/t`, subscriptions `p/a` (sid 2), `p/b` (sid 3). -/
def exT : Bytes := displayTopic ([112], [116])
def exS1 : Bytes := displaySub ([112], [97])
def exS2 : Bytes := displaySub ([112], [98])
def exSys : Sys :=
  (((Sys.init.rpc (.createTopic exT)).1.rpc (.createSub exS1 exT 10 none)).1.rpc (.createSub exS2 exT 10 none)).1

end Deltio
