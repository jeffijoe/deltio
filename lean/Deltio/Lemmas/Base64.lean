import Deltio.Model.Paging
/-
  The decoder is described on whole quads of alphabet characters (`b64Decode_quad`, `_pad1`, `_pad2`);
  `b64_decode_encode` follows the encoder's four equations.
-/
namespace Deltio

/-- A number written as high part `x` and low part `y < m`: `/ m` and `% m` give the parts back. Each regrouping
    of bytes into sextets is an instance, so none needs `omega`. -/
theorem hi_lo {m y : Nat} (x : Nat) (h : y < m) : (x * m + y) / m = x ∧ (x * m + y) % m = y := by
  rw [Nat.add_comm, Nat.add_mul_div_right _ _ (Nat.zero_lt_of_lt h), Nat.add_mul_mod_self_right,
    Nat.div_eq_of_lt h, Nat.mod_eq_of_lt h]
  exact ⟨Nat.zero_add x, rfl⟩

theorem hi_lo_lt {k m x y : Nat} (hx : x < k) (hy : y < m) : x * m + y < k * m :=
  calc x * m + y < x * m + m := Nat.add_lt_add_left hy _
    _ = (x + 1) * m := (Nat.succ_mul x m).symm
    _ ≤ k * m := Nat.mul_le_mul_right m hx

theorem b64Val_char : ∀ n, n < 64 → b64Val (b64Char n) = some n := by decide

theorem b64Char_ne_pad (n : Nat) (hn : n < 64) : b64Char n ≠ b64Pad :=
  fun h => nomatch (h ▸ b64Val_char n hn : b64Val b64Pad = some n)

theorem b64Decode_quad {p q r t : Nat} (hp : p < 64) (hq : q < 64) (hr : r < 64) (ht : t < 64) (rest : List Nat) :
    b64Decode (b64Char p :: b64Char q :: b64Char r :: b64Char t :: rest) =
      (b64Decode rest).map (fun tl => (p * 4 + q / 16) :: (q % 16 * 16 + r / 4) :: (r % 4 * 64 + t) :: tl) := by
  cases rest with
  | nil => simp [b64Decode, b64Val_char, b64Char_ne_pad, *]
  | cons e es =>
    rw [b64Decode, b64Val_char p hp, b64Val_char q hq, b64Val_char r hr, b64Val_char t ht]
    · cases b64Decode (e :: es) <;> rfl
    · exact fun h => nomatch h

/-- One pad: the third sextet carries four bits, the low two are zero. -/
theorem b64Decode_pad1 {p q y : Nat} (hp : p < 64) (hq : q < 64) (hy : y < 16) :
    b64Decode [b64Char p, b64Char q, b64Char (y * 4), b64Pad] = some [p * 4 + q / 16, q % 16 * 16 + y] := by
  have hr : y * 4 < 64 := Nat.mul_lt_mul_of_pos_right hy (by decide)
  simp [b64Decode, b64Val_char, b64Char_ne_pad, Nat.mul_mod_left, *]

/-- Two pads: the second sextet carries two bits, the low four are zero. -/
theorem b64Decode_pad2 {p x : Nat} (hp : p < 64) (hx : x < 4) :
    b64Decode [b64Char p, b64Char (x * 16), b64Pad, b64Pad] = some [p * 4 + x] := by
  have hq : x * 16 < 64 := Nat.mul_lt_mul_of_pos_right hx (by decide)
  simp [b64Decode, b64Val_char, Nat.mul_mod_left, *]

theorem b64_decode_encode : ∀ (bs : List Nat), (∀ b ∈ bs, b < 256) → b64Decode (b64Encode bs) = some bs
  | [], _ => rfl
  | [a], h => by
    have ha : a / 4 < 64 := Nat.div_lt_of_lt_mul (h a (.head _))
    rw [b64Encode, b64Decode_pad2 ha (Nat.mod_lt a (by decide)), Nat.div_add_mod']
  | [a, b], h => by
    have ha : a / 4 < 64 := Nat.div_lt_of_lt_mul (h a (.head _))
    have hb : b / 16 < 16 := Nat.div_lt_of_lt_mul (h b (.tail _ (.head _)))
    rw [b64Encode, b64Decode_pad1 ha (hi_lo_lt (Nat.mod_lt a (by decide)) hb) (Nat.mod_lt b (by decide)),
      (hi_lo _ hb).1, (hi_lo _ hb).2, Nat.div_add_mod', Nat.div_add_mod']
  | a :: b :: c :: rest, h => by
    have ha : a / 4 < 64 := Nat.div_lt_of_lt_mul (h a (.head _))
    have hb : b / 16 < 16 := Nat.div_lt_of_lt_mul (h b (.tail _ (.head _)))
    have hc : c / 64 < 4 := Nat.div_lt_of_lt_mul (h c (.tail _ (.tail _ (.head _))))
    rw [b64Encode, b64Decode_quad ha (hi_lo_lt (Nat.mod_lt a (by decide)) hb)
        (hi_lo_lt (Nat.mod_lt b (by decide)) hc) (Nat.mod_lt c (by decide)),
      b64_decode_encode rest (fun x hx => h x (.tail _ (.tail _ (.tail _ hx)))),
      (hi_lo _ hb).1, (hi_lo _ hb).2, (hi_lo _ hc).1, (hi_lo _ hc).2,
      Nat.div_add_mod', Nat.div_add_mod', Nat.div_add_mod']
    rfl

/-- The eight bytes are the base-256 digits of `n`: `Nat.mod_mul` folds in one digit at a time. -/
theorem ofLe_leBytes8 (n : Nat) (h : n < 18446744073709551616) : ofLeBytes8 (leBytes8 n) = some n := by
  rw [leBytes8, ofLeBytes8, ← Nat.mod_mul, ← Nat.mod_mul, ← Nat.mod_mul, ← Nat.mod_mul, ← Nat.mod_mul,
    ← Nat.mod_mul, ← Nat.mod_mul]
  exact congrArg some (Nat.mod_eq_of_lt h)

theorem leBytes8_bytes (n : Nat) : ∀ b ∈ leBytes8 n, b < 256 := by
  simp only [leBytes8, List.mem_cons, List.not_mem_nil, or_false]
  rintro b (rfl | rfl | rfl | rfl | rfl | rfl | rfl | rfl) <;> exact Nat.mod_lt _ (by decide)

theorem decode_encode_token (n : Nat) (h : n < 18446744073709551616) :
    decodeToken (encodeToken n) = some n := by
  rw [decodeToken, encodeToken, b64_decode_encode _ (leBytes8_bytes n)]
  exact ofLe_leBytes8 n h

end Deltio
